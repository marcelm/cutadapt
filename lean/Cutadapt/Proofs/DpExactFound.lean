import Cutadapt.Proofs.DpExactMain
/-! Exactness of the banded DP: an acceptable end cell within the band is always found. -/
namespace Cutadapt.Align.Exact
open Cutadapt Cutadapt.Align Cutadapt.Spec Cutadapt.Generated Cutadapt.Align.Sound

/-- end cell `(i, j)` is within the band and every cell content the DP may hold there passes the acceptance test -/
def Qual (cfg : Cfg) (ref query : Bytes) (i j : Nat) : Prop :=
  D (mkCtx cfg ref query) (minNOf cfg ref.length query.length) i (j - minNOf cfg ref.length query.length) ≤ cfg.k ∧
  ∀ e : Entry, Good (mkCtx cfg ref query) i j e →
    e.cost ≤ D (mkCtx cfg ref query) (minNOf cfg ref.length query.length) i (j - minNOf cfg ref.length query.length) →
    accB cfg ref ref.length i e = true

/-- completeness along the loop: a qualifying last-row cell of a processed column has led to a recorded match
    (`rowFound`), and the rows of the current column that were not computed are above `k` in `D` (`filled`), so a
    qualifying cell of the last column is one the search visits -/
structure InvF (cfg : Cfg) (ref query : Bytes) (j : Nat) (s : LoopState) : Prop where
  rowFound : cfg.stopInQuery = true → ∀ j', minNOf cfg ref.length query.length < j' → j' ≤ j →
    Qual cfg ref query ref.length j' → s.best.found = true
  filled : s.done = false → minNOf cfg ref.length query.length < j → ∀ i, s.lastFilled < i → i ≤ ref.length →
    cfg.k < D (mkCtx cfg ref query) (minNOf cfg ref.length query.length) i (j - minNOf cfg ref.length query.length)

/-- what happens in the last row of column `j+1` when the true value there is within the band -/
theorem row_event {cfg : Cfg} {ref query : Bytes} (hwf : cfg.WF ref.length) {j : Nat}
    (hj : j < query.length) {s : LoopState} (h : Inv cfg ref query j s) (hu : InvU cfg ref query j s)
    (hd : s.done = false) (hsq : cfg.stopInQuery = true)
    (hD : D (mkCtx cfg ref query) (minNOf cfg ref.length query.length) ref.length
      (j + 1 - minNOf cfg ref.length query.length) ≤ cfg.k)
    {s' : LoopState} (hs : stepAt cfg ref query s j hj = s') :
    ∃ e : Entry,
      e.cost ≤ D (mkCtx cfg ref query) (minNOf cfg ref.length query.length) ref.length
        (j + 1 - minNOf cfg ref.length query.length) ∧
      Good (mkCtx cfg ref query) ref.length (j+1) e ∧ ScoreOK ref.length e ∧
      (rowUpd cfg ref ref.length s.best e = true →
        s'.best = ⟨e.origin, e.cost, e.score, ref.length, j+1, true⟩ ∧ s'.done = (e.cost == 0 && decide (e.origin ≥ 0))) ∧
      (rowUpd cfg ref ref.length s.best e = false → s'.best = s.best ∧ s'.done = false) := by
  have hlast : s.last = ref.length :=
    Nat.le_antisymm h.last_le (Nat.le_of_not_lt fun hlt => Nat.not_le.mpr (hu.beyond hd hlt (Nat.le_refl _)) hD)
  have hcost := hu.stepCol h hd hj (Nat.le_refl _) hD
  have hcell := (h.stepCol hwf hd hj).cell (Nat.le_refl _)
  have hk : _ ≤ cfg.k := Nat.le_trans hcost hD
  obtain ⟨r1, r2⟩ := stepAt_row hd hsq hlast rfl hs hk
  exact ⟨_, hcost, hcell.1 hk, hcell.2.1, r1, r2⟩

theorem columnLoop_F {cfg : Cfg} {ref query : Bytes} (hwf : cfg.WF ref.length) {j : Nat}
    (hj : j < query.length) {s : LoopState} (h : Inv cfg ref query j s) (hu : InvU cfg ref query j s)
    (hf : InvF cfg ref query j s) :
    InvF cfg ref query (j+1) (stepAt cfg ref query s j hj) := by
  cases hd : s.done
  case true =>
    rw [stepAt_done hd]
    exact { rowFound := fun _ _ _ _ _ => (h.doneBest hd).1, filled := fun h' => Bool.noConfusion (h'.symm.trans hd) }
  case false =>
    obtain ⟨_, f2, _, _, f5⟩ := stepAt_spec hd h.last_le rfl rfl
    refine { rowFound := fun hsq j' h1 h2 hq => ?_, filled := fun _ _ i h1 h2 => ?_ }
    · by_cases hjj : j' = j + 1
      · -- the last-row event of column j+1: the cell passes the acceptance test, and the first such cell is taken
        subst hjj
        obtain ⟨e, hce, hg, _, hup, hnup⟩ := row_event hwf hj h hu hd hsq hq.1 rfl
        have hacc := hq.2 e hg hce
        cases hru : rowUpd cfg ref ref.length s.best e
        · rw [(hnup hru).1]
          cases hfd : s.best.found
          · rw [rowUpd_of_not_found hfd, hacc] at hru; cases hru
          · rfl
        · rw [(hup hru).1]
      · have := hf.rowFound hsq j' h1 (by omega) hq
        rcases f5 with ⟨hb, _⟩ | ⟨_, _, _, _, hb, _⟩
        · rw [hb]; exact this
        · rw [hb]
    · rw [f2] at h1
      exact hu.beyond hd h1 h2

section search
variable {cfg : Cfg} {ref : Bytes} {m n : Nat} {col : List Entry} {so : Int}

theorem lcsStep_found_of_acc (i : Nat) (best : Best) (h : accB cfg ref m i (col.getD i default) = true) :
    (lcsStep cfg ref m n col so i best).found = true := by
  cases hf : best.found
  · -- nothing recorded yet: an acceptable candidate is taken
    unfold lcsStep
    rw [colUpd_of_not_found hf, h, if_pos rfl]
  · unfold lcsStep
    split
    · rfl
    · exact hf

theorem go_found (firstI : Nat) :
    ∀ (fuel i : Nat) (best : Best),
    (∃ r, firstI ≤ r ∧ r ≤ i ∧ accB cfg ref m r (col.getD r default) = true) → i < fuel →
    (lastColumnSearch.go cfg ref m n col so firstI fuel i best).found = true
  | 0, _, _, _, h => by omega
  | fuel+1, i, best, ⟨r, h1, h2, h3⟩, hf => by
    rw [go_succ]
    rw [if_neg (by omega)]
    by_cases hri : r = i
    · subst hri
      have hstep : (lcsStep cfg ref m n col so r best).found = true := lcsStep_found_of_acc r best h3
      split
      · exact hstep
      · -- every later update records a match
        exact go_ind firstI (r-1) (·.found = true) (fun _ _ _ _ _ _ => rfl) fuel (r-1) _ (Nat.le_refl _) hstep
    · rw [if_neg (by rw [beq_iff_eq]; omega)]
      exact go_found firstI fuel (i-1) _ ⟨r, h1, by omega, h3⟩ (by omega)

end search

theorem initState_F (cfg : Cfg) (ref query : Bytes) :
    InvF cfg ref query (minNOf cfg ref.length query.length) (initState cfg ref.length query.length) :=
  { rowFound := fun _ _ h1 h2 _ => absurd (Nat.lt_of_lt_of_le h1 h2) (Nat.lt_irrefl _)
    filled := fun _ h => absurd h (Nat.lt_irrefl _) }

/-- **completeness of the search**: an end cell that the search visits (last row of a processed column when the
    query end may be skipped; any admissible row of the last column), lies within the band and is acceptable whatever
    start the DP remembers there, leads to a reported match -/
theorem finalBest_found {cfg : Cfg} {ref query : Bytes} (hwf : cfg.WF ref.length)
    (hcase : minNOf cfg ref.length query.length = 0 ∨ cfg.startInQuery = true) {i j : Nat}
    (hpos : (i = ref.length ∧ cfg.stopInQuery = true ∧ minNOf cfg ref.length query.length < j ∧
              j ≤ maxNOf cfg ref.length query.length) ∨
            (j = query.length ∧ maxNOf cfg ref.length query.length = query.length ∧
              minNOf cfg ref.length query.length < query.length ∧ (cfg.stopInRef = false → i = ref.length) ∧
              i ≤ ref.length))
    (hq : Qual cfg ref query i j) : (finalBest cfg ref query).found = true := by
  have hP := finalState_ind cfg ref query
    (fun j s => Inv cfg ref query j s ∧ InvU cfg ref query j s ∧ InvF cfg ref query j s)
    ⟨initState_inv hwf, initState_U hwf hcase, initState_F cfg ref query⟩
    (fun _ _ hj _ _ ⟨hI, hU, hF⟩ => ⟨columnLoop_inv hwf hj hI, columnLoop_U hwf hj hI hU, columnLoop_F hwf hj hI hU hF⟩)
  have hmin := minNOf_le cfg ref.length query.length
  have hkeep : (finalState cfg ref query).best.found = true → (finalBest cfg ref query).found = true :=
    fun h => finalBest_ind hwf (·.found = true) h (fun _ _ _ _ _ _ _ _ => rfl)
  rcases hpos with ⟨hi, hsq, hj1, hj2⟩ | ⟨hj, hmn, hj0, hsr, hi⟩
  · subst hi
    rw [Nat.max_eq_right (by omega)] at hP
    exact hkeep (hP.2.2.rowFound hsq j hj1 hj2 hq)
  · subst hj
    rw [hmn, Nat.max_eq_right hmin] at hP
    obtain ⟨hinv, hU, hF⟩ := hP
    cases hd : (finalState cfg ref query).done
    case true => exact hkeep (hinv.doneBest hd).1
    case false =>
      -- row `i` of the last column is filled, its cell is within `D`, hence acceptable, and the search visits it
      have hil : i ≤ (finalState cfg ref query).lastFilled :=
        Nat.le_of_not_lt fun hlt => Nat.not_le.mpr (hF.filled hd hj0 i hlt hi) hq.1
      have hcost := (hU.u hd).u i (by rw [mkCtx_ref_length]; exact hi) hq.1
      have hacc := hq.2 _ (((hinv.col hd).cell hi).1 (Nat.le_trans hcost hq.1)) hcost
      rw [finalBest_eq, if_pos (by rw [hmn]; exact beq_self_eq_true _)]
      unfold lastColumnSearch
      refine go_found _ _ _ _ ⟨i, ?_, hil, hacc⟩ (Nat.lt_succ_self _)
      cases hs : cfg.stopInRef
      · rw [if_neg Bool.false_ne_true, hsr hs]
        exact Nat.le_refl _
      · exact Nat.zero_le _

theorem locate_ne_none_of_found {cfg : Cfg} {ref query : Bytes} (h : (finalBest cfg ref query).found = true) :
    locate cfg ref query ≠ none := by
  rw [locate_eq, h]; simp

end Cutadapt.Align.Exact
