import Cutadapt.Proofs.ParserStr
/-! `expand_braces` inverts the run-length rendering `x{n}` (C18). -/
namespace Cutadapt.ParserProofs
open Cutadapt.Parser Cutadapt.Notation

theorem isDigit_not_brace {c : Char} (h : isDigit c = true) : c ≠ '{' ∧ c ≠ '}' := by
  simp only [isDigit, decide_eq_true_eq] at h
  constructor <;> (intro e; subst e; revert h; decide)

theorem braceGo_plain {st : BState} (hst : st = .none ∨ st = .str) (racc r : Str) {c : Char} (h1 : c ≠ '{') (h2 : c ≠ '}') :
    braceGo st racc (c :: r) = braceGo .str (c :: racc) r := by
  rcases hst with rfl | rfl <;> simp [braceGo, h1, h2]

theorem braceGo_digits (acc racc ds rest : Str) (hds : ∀ c ∈ ds, isDigit c = true) :
    braceGo (.open acc) racc (ds ++ rest) = braceGo (.open (ds.reverse ++ acc)) racc rest := by
  induction ds generalizing acc with
  | nil => rfl
  | cons d ds ih =>
    have hd := isDigit_not_brace (hds d (by simp))
    simp only [List.cons_append]
    rw [braceGo]
    simp only [hd.1, hd.2, or_self, if_false]
    rw [ih _ (fun c hc => hds c (by simp [hc]))]
    simp

theorem pyBraceInt_natDigits (n : Nat) : pyBraceInt (natDigits n) = .ok n := by
  simp [pyBraceInt, natDigits_ne_nil, natDigits_all_digit, parseDigits_natDigits]

theorem braceGo_repeat (x : Char) (racc r : Str) {n : Nat} (hn : n ≤ 10000) :
    braceGo .str (x :: racc) ('{' :: (natDigits n ++ '}' :: r)) = braceGo .none (List.replicate n x ++ racc) r := by
  rw [braceGo]
  simp only [if_true]
  rw [braceGo_digits [] (x :: racc) (natDigits n) ('}' :: r)
    (natDigits_isDigit n)]
  simp only [List.append_nil]
  have hne : (natDigits n).reverse ≠ [] := by simpa using natDigits_ne_nil n
  cases hacc : (natDigits n).reverse with
  | nil => exact absurd hacc hne
  | cons a as =>
    rw [braceGo]
    have hcount : braceCount (a :: as) = .ok n := by
      rw [← hacc]; simp [braceCount, pyBraceInt_natDigits, hn]
    simp [hcount]

theorem braceGo_runs (rs : List Run) (hrs : ∀ r ∈ rs, r.c ≠ '{' ∧ r.c ≠ '}' ∧ ∀ n, r.rep = some n → n ≤ 10000)
    {st : BState} (hst : st = .none ∨ st = .str) (racc : Str) :
    braceGo st racc (renderRuns rs) = .ok (racc.reverse ++ expandRuns rs) := by
  induction rs generalizing st racc with
  | nil => rcases hst with rfl | rfl <;> simp [renderRuns, expandRuns, braceGo]
  | cons r rs ih =>
    obtain ⟨h1, h2, h3⟩ := hrs r (by simp)
    have hrs' : ∀ r ∈ rs, r.c ≠ '{' ∧ r.c ≠ '}' ∧ ∀ n, r.rep = some n → n ≤ 10000 := fun q hq => hrs q (by simp [hq])
    have hr : renderRuns (r :: rs) = r.render ++ renderRuns rs := by simp [renderRuns]
    have he : expandRuns (r :: rs) = r.expand ++ expandRuns rs := by
      unfold expandRuns; rw [List.flatMap_cons]
    rw [hr, he]
    cases hrep : r.rep with
    | none =>
      simp only [Run.render, Run.expand, hrep, List.cons_append, List.nil_append]
      rw [braceGo_plain hst _ _ h1 h2, ih hrs' (Or.inr rfl)]
      simp
    | some n =>
      simp only [Run.render, Run.expand, hrep, List.cons_append, List.append_assoc, List.nil_append]
      rw [braceGo_plain hst _ _ h1 h2, braceGo_repeat _ _ _ (h3 n hrep), ih hrs' (Or.inl rfl)]
      simp

/-- **Brace expansion inverts run-length rendering.** -/
theorem expandBraces_renderRuns (rs : List Run) (hrs : ∀ r ∈ rs, r.c ≠ '{' ∧ r.c ≠ '}' ∧ ∀ n, r.rep = some n → n ≤ 10000) :
    expandBraces (renderRuns rs) = .ok (expandRuns rs) := by
  unfold expandBraces
  rw [braceGo_runs rs hrs (Or.inl rfl)]
  simp

end Cutadapt.ParserProofs
