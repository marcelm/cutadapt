import Cutadapt.Proofs.ParserSpec
/-! From one parsed part to its documented meaning (C18): `aspecCore`, `construct`, the constructor call of a part, `makeNotLinked`. -/
namespace Cutadapt.ParserProofs
open Cutadapt.Parser Cutadapt.Notation

/-- the `restriction` that `AdapterSpecification.parse` keeps: the one at the 5' end if there is one, else the one at the 3' end.
    Reducible, because `aspecCore` spells this `if` out. -/
abbrev restrictionOf (r : Restr) : Option Restriction := if (Restr.front r).isSome then Restr.front r else Restr.back r

theorem classOf_none {t : AType} {r : Restr} {rm : Bool} (h : classOf t r rm = none) :
    (t = .front ∧ (Restr.back r).isSome = true) ∨ (t = .back ∧ (Restr.front r).isSome = true) ∨
    (t = .anywhere ∧ (restrictionOf r).isSome = true) ∨ (rm = true ∧ (t ≠ .front ∨ (restrictionOf r).isSome = true)) := by
  revert h; cases t <;> cases r <;> cases rm <;> decide +kernel

theorem restrictionOf_anchored (r : Restr) : restrictionOf r = some .anchored ↔ r.anchored = true := by
  cases r <;> decide

theorem restrictionOf_isSome (r : Restr) : (restrictionOf r).isSome = r.restricted := by
  cases r <;> rfl

theorem classOf_some {t : AType} {r : Restr} {rm : Bool} {cls : Cls} (h : classOf t r rm = some cls) :
    ¬ (t = .front ∧ (Restr.back r).isSome = true) ∧ ¬ (t = .back ∧ (Restr.front r).isSome = true) ∧
    ¬ (t = .anywhere ∧ (restrictionOf r).isSome = true) ∧ ¬ (rm = true ∧ (t ≠ .front ∨ (restrictionOf r).isSome = true)) ∧
    cls = clsOf t (restrictionOf r) rm := by
  cases t <;> cases r <;> cases rm <;> cases h <;> decide

theorem classOf_anchored_iff {t : AType} {r : Restr} {rm : Bool} {cls : Cls} (h : classOf t r rm = some cls) :
    (cls = .prefix ∨ cls = .suffix) ↔ r.anchored = true := by
  cases t <;> cases r <;> cases rm <;> cases h <;> decide

/-- the `min_overlap` clamp of `AdapterSpecification.parse` -/
def clampV (len : Nat) (v : Value) : Value := if v.gtNat len then .int len else v

/-- lookups in `AdapterSpecification.parameters` in terms of the written dict `d` -/
def aGet (d : Params) (len : Nat) (k : Key) : Option Value :=
  match k with
  | .rightmost => none
  | .minOverlap => (postGet d .minOverlap).map (clampV len)
  | k => postGet d k

theorem not_allX {p : Part} (hp : p.WF) : (p.restr.pre ++ expandRuns p.runs ++ p.restr.suf).all (· = 'X') = false := by
  obtain ⟨c, tl, hsq, hx⟩ := edge_head hp.2.2.2
  rw [List.all_eq_false]
  refine ⟨c, by simp [hsq], ?_⟩
  rw [decide_eq_true_eq]
  rintro rfl
  revert hx; decide

theorem seq_no_anchor {p : Part} (hp : p.WF) : ∀ c ∈ expandRuns p.runs, c ≠ '^' ∧ c ≠ '$' := fun c hc =>
  have h := seqChars_spec _ (expand_seqChars hp c hc)
  ⟨h.caret, h.dollar⟩

/-- **Failure cases of `AdapterSpecification.parse`** on a rendered part: inconsistent parameters, a restriction (or
    `rightmost`) that the adapter type does not allow, `min_overlap` on an anchored adapter. -/
theorem parseASpec_err {p : Part} (hp : p.WF) (t : AType)
    (h : paramsConsistent p.params = false ∨ classOf t p.restr (paramSem p.params).rightmost = none ∨
         ((paramSem p.params).o.isSome = true ∧ p.restr.anchored = true)) :
    ∃ e, parseASpec p.render t = .error e ∧ e.isCmdline = true := by
  rw [parseASpec_render hp]
  cases hc : paramsConsistent p.params with
  | false =>
    obtain ⟨e, he, hk⟩ := parseParams_err hc
    exact ⟨e, by rw [he], hk⟩
  | true =>
    rcases h with h | h
    · rw [hc] at h; exact Bool.noConfusion h
    obtain ⟨P, hP, hget⟩ := parseParams_ok hc
    simp only [hP]
    unfold aspecCore
    simp only [not_allX hp, Bool.false_eq_true, if_false, parseRestrictions_render p.restr hp.2.2.2 (seq_no_anchor hp)]
    have hrm : P.flag .rightmost = (paramSem p.params).rightmost := Params.flag_congr (hget .rightmost)
    have hhas : Params.has (P.erase .rightmost) .minOverlap = (paramSem p.params).o.isSome := by
      rw [Params.has, Params.get_erase, hget]; rfl
    rw [hrm, hhas]
    by_cases c1 : t = .front ∧ (Restr.back p.restr).isSome = true
    · exact ⟨.front5, by simp [c1], rfl⟩
    by_cases c2 : t = .back ∧ (Restr.front p.restr).isSome = true
    · exact ⟨.back3, by simp [c2], rfl⟩
    simp only [c1, c2, if_false]
    by_cases c3 : t = .anywhere ∧ (restrictionOf p.restr).isSome = true
    · exact ⟨.anywhereRestriction, by simp [c3], rfl⟩
    simp only [c3, if_false]
    by_cases c4 : (paramSem p.params).o.isSome = true ∧ restrictionOf p.restr = some .anchored
    · exact ⟨.anchoredMinOverlap, by simp [c4], rfl⟩
    simp only [c4, if_false]
    by_cases c5 : (paramSem p.params).rightmost = true ∧ (t ≠ .front ∨ (restrictionOf p.restr).isSome = true)
    · exact ⟨.rightmost, by simp only [c5]; simp, rfl⟩
    exfalso
    rcases h with h | h
    · rcases classOf_none h with h | h | h | h
      · exact c1 h
      · exact c2 h
      · exact c3 h
      · exact c5 h
    · exact c4 ⟨h.1, (restrictionOf_anchored _).mpr h.2⟩

/-- **Success case of `AdapterSpecification.parse`** on a rendered part. -/
theorem parseASpec_ok {p : Part} (hp : p.WF) (t : AType) {cls : Cls} (hc : paramsConsistent p.params = true)
    (hcls : classOf t p.restr (paramSem p.params).rightmost = some cls)
    (ho : ¬ ((paramSem p.params).o.isSome = true ∧ p.restr.anchored = true)) :
    ∃ A, parseASpec p.render t = .ok A ∧ A.name = p.name ∧ A.restriction = restrictionOf p.restr ∧
      A.sequence = expandRuns p.runs ∧ A.atype = t ∧ A.rightmost = (paramSem p.params).rightmost ∧ A.cls = cls ∧
      ∀ k, Params.get A.parameters k = aGet (paramDict p.params) (expandRuns p.runs).length k := by
  rw [parseASpec_render hp]
  obtain ⟨P, hP, hget⟩ := parseParams_ok hc
  simp only [hP]
  obtain ⟨c1, c2, c3, c5, hclsEq⟩ := classOf_some hcls
  unfold aspecCore
  simp only [not_allX hp, Bool.false_eq_true, if_false, parseRestrictions_render p.restr hp.2.2.2 (seq_no_anchor hp)]
  have hrm : P.flag .rightmost = (paramSem p.params).rightmost := Params.flag_congr (hget .rightmost)
  have hhas : Params.has (P.erase .rightmost) .minOverlap = (paramSem p.params).o.isSome := by
    rw [Params.has, Params.get_erase, hget]; rfl
  rw [hrm, hhas]
  have c4 : ¬ ((paramSem p.params).o.isSome = true ∧ restrictionOf p.restr = some .anchored) := by
    rintro ⟨h3, h4⟩; exact ho ⟨h3, (restrictionOf_anchored _).mp h4⟩
  simp only [c1, c2, if_false, c3, c4, c5]
  refine ⟨_, rfl, rfl, rfl, rfl, rfl, rfl, hclsEq.symm, ?_⟩
  intro k
  have hgm : Params.get (P.erase .rightmost) .minOverlap = postGet (paramDict p.params) .minOverlap := by
    simp [Params.get_erase, hget]
  simp only [hgm]
  cases hv : postGet (paramDict p.params) .minOverlap with
  | none =>
    simp only [Params.get_erase, hget]
    cases k <;> simp [aGet, hv]
  | some v =>
    simp only
    by_cases hgt : v.gtNat (expandRuns p.runs).length = true
    · simp only [hgt, if_true, Params.get_map_set, Params.get_erase, hget]
      cases k <;> simp [aGet, hv, clampV, hgt]
    · simp only [hgt, Bool.false_eq_true, if_false, Params.get_erase, hget]
      cases k <;> simp [aGet, hv, clampV, hgt]

theorem normSeq_eq (s : Str) : normSeq s = normalise s := by
  unfold normSeq normalise
  apply List.map_congr_left
  intro c _
  rfl

theorem bool_truthy (b : Bool) : (Value.bool b).truthy = b := by cases b <;> rfl

theorem int_not_gt (n : Nat) : (Value.int n).gtNat n = false := by simp [Value.gtNat, Value.den, Value.numer]

theorem countN_nonN (s : Str) : s.length - countN s = nonN s := rfl

theorem construct_eval (cls : Cls) (sq : Str) (name : Option Str) (kw : Params) (e o ind : Value) (rw aw fa anch : Bool)
    (he : Params.get kw .maxErrors = some e) (ho : Params.get kw .minOverlap = some o) (hi : Params.get kw .indels = some ind)
    (hrw : Params.get kw .readWildcards = some (.bool rw)) (haw : Params.get kw .adapterWildcards = some (.bool aw))
    (hfa : kw.flag .forceAnywhere = fa)
    (hbad : ∀ k, kwAllowed cls k = false → Params.get kw k = none)
    (hanch : (cls = .prefix ∨ cls = .suffix) ↔ anch = true)
    (hsq : sq ≠ []) (hiu : (normSeq sq).all isIupac = true) (hoint : o.isFloat = false) :
    construct cls sq name kw =
      (let s := normalise sq
       let n := nonN s
       let divisor := if e.ge1 ∧ n ≠ 0 then n else 1
       let o1 := if anch then .int s.length else if o.gtNat s.length then .int s.length else o
       let aw' := aw && !s.all isACGT
       if aw' ∧ n = 0 then .error .onlyN
       else if anch ∧ ¬ ind.truthy ∧ e.den * divisor < e.numer then .error .rateRange
       else .ok ⟨cls, s, name, e, divisor, o1, ind, .bool rw, aw', fa⟩) := by
  have hne : normSeq sq ≠ [] := by simpa [normSeq] using hsq
  have hlen : (normSeq sq).length = sq.length := by simp [normSeq]
  unfold construct
  simp only [any_bad_false (kwAllowed cls) kw hbad, Bool.false_eq_true, if_false, he, ho, hi, hrw, haw, hfa, Option.getD_some, hne,
    bool_truthy, hiu, not_true_eq_false, and_false, countN_nonN, hanch]
  rw [← normSeq_eq]
  by_cases ha : anch = true
  · simp only [ha, if_true, true_and, ← hlen, int_not_gt, Bool.false_eq_true]
    by_cases hind : ind.truthy = true
    · simp [hind, Value.isFloat]
    · simp only [Bool.not_eq_true] at hind
      simp [hind]
  · simp only [ha]
    have hfl : (if o.gtNat (normSeq sq).length = true then Value.int (normSeq sq).length else o).isFloat = false := by
      split
      · rfl
      · exact hoint
    simp [hfl]

/-- the `search_parameters` dict holds exactly the settings `base` -/
structure SPOK (sp : Params) (base : Base) : Prop where
  e : Params.get sp .maxErrors = some base.e
  o : Params.get sp .minOverlap = some base.o
  oint : base.o.isFloat = false
  indels : Params.get sp .indels = some base.indels
  rw : Params.get sp .readWildcards = some (.bool base.readWildcards)
  aw : Params.get sp .adapterWildcards = some (.bool base.adapterWildcards)
  other : ∀ k, kwAllowed .anywhere k = false → Params.get sp k = none

theorem optOr_eq (a b : Option Str) : Parser.optOr a b = Notation.optOr a b := by cases a <;> rfl

theorem seq_iupac {p : Part} (hp : p.WF) : (normSeq (expandRuns p.runs)).all isIupac = true := by
  rw [List.all_eq_true]
  intro c hc
  obtain ⟨x, hx, rfl⟩ := List.mem_map.mp hc
  exact (seqChars_spec _ (expand_seqChars hp x hx)).iupac

theorem getD_eq_match (x : Option Value) (d : Value) : (match x with | some v => some v | none => some d) = some (x.getD d) := by
  cases x <;> rfl

theorem toKind_cmdline {α : Type} (e : Err) (hk : e.isCmdline = true) : toKind (Except.error e : Except Err α) = .error .cmdline := by
  simp [toKind, kindOf, hk]

theorem ite_err_kind {α : Type} {c : Prop} [Decidable c] {x : Except Kind α} {k : Kind}
    (hx : x = .error k → k = .cmdline) (h : (if c then Except.error Kind.cmdline else x) = .error k) : k = .cmdline := by
  by_cases hc : c
  · rw [if_pos hc] at h; injection h with h; exact h.symm
  · rw [if_neg hc] at h; exact hx h

theorem buildPart_err_kind {p : Part} {base : Base} {cls : Cls} {nm : Option Str} {fa : Bool} {k : Kind}
    (h : buildPart p base cls nm fa = .error k) : k = .cmdline := by
  unfold buildPart at h
  exact ite_err_kind (ite_err_kind (fun h => by cases h)) h

/-- **The constructor call of one part**: with the keyword arguments looked up as the parser passes them, `construct` gives
    the documented record (or one of its two documented errors). -/
theorem construct_part {p : Part} (hp : p.WF) {sp : Params} {base : Base} (hsp : SPOK sp base) {cls : Cls}
    (hanchIff : (cls = .prefix ∨ cls = .suffix) ↔ p.restr.anchored = true) (nm : Option Str) (kw : Params) (fa : Bool)
    (hg : ∀ k, kwAllowed .anywhere k = true →
      Params.get kw k = match aGet (paramDict p.params) (expandRuns p.runs).length k with
        | some v => some v
        | none => Params.get sp k)
    (hfa : kw.flag .forceAnywhere = fa)
    (hbad : ∀ k, kwAllowed cls k = false → Params.get kw k = none) :
    match buildPart p base cls nm fa with
    | .error _ => ∃ e, construct cls (expandRuns p.runs) nm kw = .error e ∧ e.isCmdline = true
    | .ok (a, r) => construct cls (expandRuns p.runs) nm kw = .ok a ∧ r = (paramSem p.params).required := by
  rw [construct_eval cls (expandRuns p.runs) nm kw
      ((paramSem p.params).e.getD base.e)
      (match (paramSem p.params).o with
        | some v => if v.gtNat (normalise (expandRuns p.runs)).length = true then .int (normalise (expandRuns p.runs)).length else v
        | none => base.o)
      ((paramSem p.params).indels.getD base.indels) base.readWildcards base.adapterWildcards fa p.restr.anchored
      (hfa := hfa) (hbad := hbad) (hanch := hanchIff) (hsq := hp.2.2.2.1) (hiu := seq_iupac hp)]
  · unfold buildPart
    simp only
    generalize normalise (expandRuns p.runs) = S
    generalize (paramSem p.params).e.getD base.e = E
    generalize (paramSem p.params).indels.getD base.indels = I
    by_cases h1 : (base.adapterWildcards && !S.all isACGT) = true ∧ nonN S = 0
    · simp only [h1, and_self, if_true]; exact ⟨_, rfl, rfl⟩
    · simp only [h1, if_false]
      by_cases h2 : p.restr.anchored = true ∧ ¬ I.truthy = true ∧
          E.den * (if E.ge1 = true ∧ nonN S ≠ 0 then nonN S else 1) < E.numer
      · simp only [h2, if_true]; exact ⟨_, rfl, rfl⟩
      · simp only [h2, if_false]
        refine ⟨?_, trivial⟩
        cases (paramSem p.params).o <;> rfl
  · rw [hg .maxErrors rfl, hsp.e]
    exact getD_eq_match _ _
  · rw [hg .minOverlap rfl, hsp.o]
    simp only [aGet, ← paramSem_o]
    have hl : (normalise (expandRuns p.runs)).length = (expandRuns p.runs).length := by simp [normalise]
    rw [hl]
    cases (paramSem p.params).o <;> simp [clampV]
  · rw [hg .indels rfl, hsp.indels]
    exact getD_eq_match _ _
  · rw [hg .readWildcards rfl, hsp.rw]
    simp [aGet, postGet, paramDict_get_global]
  · rw [hg .adapterWildcards rfl, hsp.aw]
    simp [aGet, postGet, paramDict_get_global]
  · cases ho2 : (paramSem p.params).o with
    | none => exact hsp.oint
    | some v =>
      simp only
      split
      · rfl
      · exact paramDict_o_int hp.2.2.1 ho2

/-- **A rendered adapter that is not linked** is built as documented. -/
theorem makeNotLinked_sem {p : Part} (hp : p.WF) {sp : Params} {base : Base} (hsp : SPOK sp base) (t : AType) (hname : Option Str) :
    toKind (makeNotLinked p.render hname t sp) =
      match meaningPart t false p base (Notation.optOr hname p.name) with
      | .error k => .error k
      | .ok (a, _) => .ok (.single a) := by
  unfold meaningPart
  have herr : (∃ e, parseASpec p.render t = .error e ∧ e.isCmdline = true) →
      toKind (makeNotLinked p.render hname t sp) = .error .cmdline := by
    rintro ⟨e, he, hk⟩
    simp only [makeNotLinked, he, toKind_cmdline e hk]
  by_cases hc : paramsConsistent p.params = true
  case neg =>
    rw [herr (parseASpec_err hp t (Or.inl (by simpa using hc)))]; simp [hc]
  simp only [hc, Bool.not_true, Bool.false_eq_true, if_false]
  cases hcls : classOf t p.restr (paramSem p.params).rightmost with
  | none => rw [herr (parseASpec_err hp t (Or.inr (Or.inl hcls)))]
  | some cls =>
    simp only
    by_cases ho : (paramSem p.params).o.isSome = true ∧ p.restr.anchored = true
    · rw [herr (parseASpec_err hp t (Or.inr (Or.inr ho)))]; simp [ho]
    simp only [ho, if_false]
    obtain ⟨A, hA, hAn, _, hAs, _, _, hAcls, hAg⟩ := parseASpec_ok hp t hc hcls ho
    have hanchIff := classOf_anchored_iff hcls
    have hanyw : A.parameters.flag .anywhere = (paramSem p.params).anywhere := Params.flag_congr (hAg .anywhere)
    unfold makeNotLinked
    simp only [hA, hAcls, hanyw, hAs, hAn, optOr_eq]
    -- the dict handed to the constructor: `anywhere` is taken out and, for a regular 5'/3' adapter, becomes `force_anywhere`
    generalize hfa : ((paramSem p.params).anywhere && (cls == .front || cls == .back || cls == .rightmostFront)) = fa
    have hcond : ((paramSem p.params).anywhere = true ∧ (cls = .front ∨ cls = .back ∨ cls = .rightmostFront)) ↔ fa = true := by
      rw [← hfa]; simp [or_assoc]
    simp only [hcond, Bool.not_false, Bool.true_and, hfa]
    generalize hps : (if fa = true then A.parameters.erase .anywhere ++ [(Key.forceAnywhere, Value.bool true)]
      else A.parameters.erase .anywhere) = ps'
    have hget : ∀ k, Params.get ps' k = if k = .anywhere then none else
        if k = .forceAnywhere then (if fa = true then some (.bool true) else none)
        else aGet (paramDict p.params) (expandRuns p.runs).length k := by
      intro k
      rw [← hps]
      by_cases h1 : k = .anywhere
      · cases fa <;> simp [h1, Params.get_append, Params.get_erase, Params.get_singleton]
      · by_cases h2 : k = .forceAnywhere
        · cases fa <;>
            simp [h2, Params.get_append, Params.get_erase, Params.get_singleton, hAg, aGet, postGet, paramDict_get_global]
        · cases fa <;> cases hg : aGet (paramDict p.params) (expandRuns p.runs).length k <;>
            simp [h1, h2, Ne.symm h2, Params.get_append, Params.get_erase, Params.get_singleton, hAg, hg]
    have hreq : Params.has ps' .required = (paramSem p.params).required.isSome := by
      simp [Params.has, hget, paramSem_required, aGet]
    rw [hreq]
    by_cases hr : (paramSem p.params).required.isSome = true
    · simp [hr, toKind, kindOf, Err.isCmdline, Err.cls]
    simp only [hr, Bool.false_eq_true, if_false, and_false]
    have hreqNone : postGet (paramDict p.params) .required = none := by
      rw [← paramSem_required]
      simpa using hr
    have hcp := construct_part hp hsp hanchIff (Notation.optOr hname p.name) (sp.update ps') fa
      (by
        intro k hk
        have h1 : k ≠ .anywhere := by rintro rfl; cases hk
        have h2 : k ≠ .forceAnywhere := by rintro rfl; cases hk
        rw [Params.get_update, hget, if_neg h1, if_neg h2]
        rfl)
      (by
        simp [Params.flag, Params.get_update, hget, hsp.other _ (by decide : kwAllowed .anywhere .forceAnywhere = false)]
        cases fa <;> rfl)
      (by
        intro k hbadk
        have hbad2 : kwAllowed .anywhere k = false := by cases k <;> simp [kwAllowed] at hbadk ⊢
        rw [Params.get_update, hget, hsp.other k hbad2]
        by_cases hk : k = .forceAnywhere
        · subst hk
          have : cls = .anywhere := by simpa [kwAllowed] using hbadk
          simp [← hfa, this]
        · cases k <;> simp [kwAllowed] at hbad2 hk <;> simp [aGet, hreqNone] <;> simp [postGet])
    revert hcp
    cases hb : buildPart p base cls (Notation.optOr hname p.name) fa with
    | error k =>
      rintro ⟨e, he, hk⟩
      rw [he, toKind_cmdline e hk, buildPart_err_kind hb]
    | ok ar =>
      rintro ⟨h1, _⟩
      rw [h1]; rfl

end Cutadapt.ParserProofs
