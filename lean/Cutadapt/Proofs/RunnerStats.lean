import Cutadapt.Proofs.RunnerStep
/-! Conservation of the statistics: what the main process has merged plus what the workers still hold equals the sum
    over the chunks whose processing has been completed. Needs `add` associative and commutative with `zero` neutral. -/
namespace Cutadapt.Runner
variable {Chunk Stats Fault : Type} {cfg : Config Chunk Stats Fault} {s s' : State Stats}

/-- statistics of the results waiting in an outbox -/
def resStats (add : Stats → Stats → Stats) (zero : Stats) (st : Nat → Stats) : List (OutMsg Stats) → Stats
  | [] => zero
  | .result j _ :: r => add (st j) (resStats add zero st r)
  | .done _ :: r => resStats add zero st r
  | .workerError :: r => resStats add zero st r

theorem resStats_append {add : Stats → Stats → Stats} {zero : Stats} (hm : IsCommMonoid add zero) (st : Nat → Stats)
    (a b : List (OutMsg Stats)) : resStats add zero st (a ++ b) = add (resStats add zero st a) (resStats add zero st b) := by
  induction a with
  | nil => exact (hm.zero_add _).symm
  | cons m r ih => cases m <;> simp only [List.cons_append, resStats, ih, hm.assoc]

/-- statistics a worker holds that the main process has not merged yet -/
def pend (cfg : Config Chunk Stats Fault) (s : State Stats) (w : Nat) : Stats :=
  if s.isOpen w = true then (s.workers w).stats else cfg.zero

def outRes (cfg : Config Chunk Stats Fault) (s : State Stats) (w : Nat) : Stats :=
  resStats cfg.add cfg.zero (outStats cfg) (s.workers w).outbox

def StatsInv (cfg : Config Chunk Stats Fault) (s : State Stats) : Prop :=
  cfg.add s.mstats (sumRange cfg.add cfg.zero (pend cfg s) cfg.nWorkers) =
  cfg.add (wsum cfg.add cfg.zero (outStats cfg) s.received) (sumRange cfg.add cfg.zero (outRes cfg s) cfg.nWorkers)

theorem statsInv_init (hm : IsCommMonoid cfg.add cfg.zero) : StatsInv cfg (init cfg) := by
  unfold StatsInv
  have h1 : sumRange cfg.add cfg.zero (outRes cfg (init cfg)) cfg.nWorkers = cfg.zero :=
    sumRange_zero hm (fun v _ => by simp [outRes, init, resStats])
  have h2 : sumRange cfg.add cfg.zero (pend cfg (init cfg)) cfg.nWorkers = cfg.zero :=
    sumRange_zero hm (fun v _ => by simp [pend, init])
  rw [h1, h2]; simp [init, wsum]

theorem statsInv_same (h : StatsInv cfg s) (hms : s'.mstats = s.mstats) (hrec : s'.received = s.received)
    (hp : ∀ v, v < cfg.nWorkers → pend cfg s' v = pend cfg s v) (ho : ∀ v, v < cfg.nWorkers → outRes cfg s' v = outRes cfg s v) :
    StatsInv cfg s' := by
  unfold StatsInv at h ⊢
  rw [hms, hrec, sumRange_congr hp, sumRange_congr ho]; exact h

theorem pend_setW_ne {w v : Nat} (W' : Worker Stats) (hv : v ≠ w) : pend cfg (s.setW w W') v = pend cfg s v := by
  rw [pend, pend, setW_workers_ne _ _ hv]; rfl

theorem outRes_setW_ne {w v : Nat} (W' : Worker Stats) (hv : v ≠ w) : outRes cfg (s.setW w W') v = outRes cfg s v := by
  rw [outRes, outRes, setW_workers_ne _ _ hv]

theorem pend_setW {w : Nat} (W' : Worker Stats) (hst : W'.stats = (s.workers w).stats) (v : Nat) :
    pend cfg (s.setW w W') v = pend cfg s v := by
  by_cases hv : v = w
  · subst hv; rw [pend, pend, setW_workers_same, hst]; rfl
  · exact pend_setW_ne _ hv

theorem outRes_setW {w : Nat} (W' : Worker Stats)
    (hres : resStats cfg.add cfg.zero (outStats cfg) W'.outbox = resStats cfg.add cfg.zero (outStats cfg) (s.workers w).outbox) (v : Nat) :
    outRes cfg (s.setW w W') v = outRes cfg s v := by
  by_cases hv : v = w
  · subst hv; rw [outRes, outRes, setW_workers_same, hres]
  · exact outRes_setW_ne _ hv

theorem statsInv_local {w : Nat} {W' : Worker Stats} (h : StatsInv cfg s) (hwk : s'.workers = (s.setW w W').workers)
    (hms : s'.mstats = s.mstats) (hrec : s'.received = s.received) (hop : s'.isOpen = s.isOpen)
    (hst : W'.stats = (s.workers w).stats)
    (hres : resStats cfg.add cfg.zero (outStats cfg) W'.outbox = resStats cfg.add cfg.zero (outStats cfg) (s.workers w).outbox) :
    StatsInv cfg s' := by
  exact statsInv_same h hms hrec (fun v _ => by rw [pend, hop, hwk]; exact pend_setW W' hst v)
    (fun v _ => by rw [outRes, hwk]; exact outRes_setW W' hres v)

theorem statsInv_step (hm : IsCommMonoid cfg.add cfg.zero) {a : Action} (hinv : RunInv cfg s) (h : StatsInv cfg s)
    (hs : Step cfg s a s') : StatsInv cfg s' := by
  cases hs with
  | needWork | sendChunk | sendPill | recvChunk => exact statsInv_local h rfl rfl rfl rfl rfl rfl
  | recvPill | recvReaderError | workerRaises => exact statsInv_local h rfl rfl rfl rfl rfl ((resStats_append hm _ _ _).trans (hm.add_zero _))
  | mainError _ _ hout => exact statsInv_local h rfl rfl rfl rfl rfl (by rw [hout]; rfl)
  | mainReturns => exact statsInv_same h rfl rfl (fun _ _ => rfl) (fun _ _ => rfl)
  | readerRaises =>
    exact statsInv_same h rfl rfl (fun v hv => by simp only [pend, if_pos hv]) (fun v hv => by simp only [outRes, if_pos hv])
  | processed hw hph hc hp =>
    -- a chunk has been processed: both sides grow by its statistics
    rename_i w i c d st
    have ho := hinv.outbox w hw
    have hopen : s.isOpen w = true := by
      simp only [OutboxOk, hph] at ho; exact ho.1
    have hst : outStats cfg i = st := by simp only [outStats, outOf, hc, hp]
    unfold StatsInv at h ⊢
    rw [sumRange_update hm hw (f := pend cfg s) (δ := st) (fun v hv => pend_setW_ne _ hv),
      sumRange_update hm hw (f := outRes cfg s) (δ := st) (fun v hv => outRes_setW_ne _ hv), ← hm.assoc, ← hm.assoc]
    · exact congrArg (cfg.add · st) h
    · simp only [outRes, setW_workers_same, resStats_append hm, resStats, hm.add_zero, hst]
    · simp only [pend, hopen, setW_isOpen, setW_workers_same, if_true]
  | mainResult hw hop hout =>
    -- a result moves from the outbox to the received set
    rename_i w i d rest
    have h1 : sumRange cfg.add cfg.zero (pend cfg (s.setW w { s.workers w with outbox := rest })) cfg.nWorkers =
        sumRange cfg.add cfg.zero (pend cfg s) cfg.nWorkers :=
      sumRange_congr fun v _ => pend_setW { s.workers w with outbox := rest } rfl v
    have h2 : sumRange cfg.add cfg.zero (outRes cfg s) cfg.nWorkers =
        cfg.add (sumRange cfg.add cfg.zero (outRes cfg (s.setW w { s.workers w with outbox := rest })) cfg.nWorkers) (outStats cfg i) := by
      refine sumRange_update hm hw (fun v hv => (outRes_setW_ne _ hv).symm) ?_
      simp only [outRes, hout, resStats, setW_workers_same]
      exact hm.comm _ _
    unfold StatsInv at h
    show cfg.add s.mstats (sumRange _ _ (pend cfg (s.setW w _)) _) =
      cfg.add (cfg.add (outStats cfg i) (wsum _ _ _ s.received)) (sumRange _ _ (outRes cfg (s.setW w _)) _)
    rw [h1, h, h2, hm.comm _ (outStats cfg i), ← hm.assoc, hm.comm _ (outStats cfg i)]
  | mainDone hw hop hout =>
    -- the worker's statistics are merged, its connection is removed
    rename_i w st rest
    obtain ⟨hph, rfl, rfl⟩ := outboxOk_done (hinv.outbox w hw) hop hout
    have h1 : sumRange cfg.add cfg.zero (pend cfg s) cfg.nWorkers =
        cfg.add (sumRange cfg.add cfg.zero (pend cfg { s.setW w { s.workers w with outbox := [] } with
          mstats := cfg.add s.mstats (s.workers w).stats, isOpen := fun v => if v = w then false else s.isOpen v }) cfg.nWorkers)
          (s.workers w).stats := by
      refine sumRange_update hm hw (fun v hv => ?_) ?_
      · simp only [pend, setW_workers_ne _ _ hv, hv, if_false]
      · simp only [pend, hop, hm.zero_add, if_true, Bool.false_eq_true, if_false]
    have h2 : sumRange cfg.add cfg.zero (outRes cfg (s.setW w { s.workers w with outbox := [] })) cfg.nWorkers =
        sumRange cfg.add cfg.zero (outRes cfg s) cfg.nWorkers :=
      sumRange_congr fun v _ => outRes_setW _ (by rw [hout]; rfl) v
    unfold StatsInv at h
    show cfg.add (cfg.add s.mstats (s.workers w).stats) _ = cfg.add (wsum _ _ _ s.received) (sumRange _ _ (outRes cfg (s.setW w _)) _)
    rw [h2, ← h, h1, hm.assoc, hm.comm (s.workers w).stats]

end Cutadapt.Runner
