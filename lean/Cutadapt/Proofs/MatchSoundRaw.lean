import Cutadapt.Proofs.MatchSoundTables
import Cutadapt.Proofs.MatchSoundScript
import Cutadapt.Proofs.DpExactMain
/-! C01, part 3: what `locate` and the comparers report, in the documented vocabulary: a genuine in-tolerance
    occurrence (`RawSound`) whose number of errors is minimal (`RawMin`), placed as the flag set demands; conversely
    the comparers report whatever meets that description. Last, which of these engines `alignment` runs for each
    adapter class. -/
namespace Cutadapt.MatchSound
open Cutadapt Cutadapt.Align Cutadapt.Spec Cutadapt.Generated Cutadapt.Adapters

/-- a reported alignment is a genuine in-tolerance occurrence (everything except the placement rule) -/
structure RawSound (aw rw : Bool) (c : Nat) (thr : Nat → Nat) (mo : Nat) (seq read : Bytes)
    (as ae rs re e : Nat) : Prop where
  bounds : as ≤ ae ∧ ae ≤ seq.length ∧ rs ≤ re ∧ re ≤ read.length
  overlap : mo ≤ ae - as
  script : ∃ s, lhs s = seg seq as ae ∧ rhs s = seg read rs re ∧ cost (docMatch aw rw) c s ≤ e
  tolerance : e ≤ thr (Spec.effLen aw seq as ae)

/-- no alignment of the two intervals is cheaper than `e` -/
def RawMin (aw rw : Bool) (c : Nat) (seq read : Bytes) (as ae rs re e : Nat) : Prop :=
  ∀ s, lhs s = seg seq as ae → rhs s = seg read rs re → e ≤ cost (docMatch aw rw) c s

theorem RawSound.reverse {aw rw : Bool} {c : Nat} {thr : Nat → Nat} {mo : Nat} {seq read : Bytes}
    {as ae rs re e : Nat} (h : RawSound aw rw c thr mo seq.reverse read.reverse as ae rs re e) :
    RawSound aw rw c thr mo seq read (seq.length - ae) (seq.length - as) (read.length - re) (read.length - rs) e := by
  obtain ⟨⟨b1, b2, b3, b4⟩, hov, ⟨s, hl, hr, hc⟩, htol⟩ := h
  rw [List.length_reverse] at b2 b4
  refine ⟨⟨Nat.sub_le_sub_left b1 _, Nat.sub_le .., Nat.sub_le_sub_left b3 _, Nat.sub_le ..⟩, by omega,
    ⟨s.reverse, ?_, ?_, ?_⟩, ?_⟩
  · rw [lhs_reverse, hl, seg_reverse_of_le _ _ _ b1 b2, List.reverse_reverse]
  · rw [rhs_reverse, hr, seg_reverse_of_le _ _ _ b3 b4, List.reverse_reverse]
  · rw [cost_reverse]; exact hc
  · rw [spec_effLen_reverse _ _ _ _ b1 b2] at htol; exact htol

theorem RawMin.reverse {aw rw : Bool} {c : Nat} {seq read : Bytes} {as ae rs re e : Nat}
    (hb : as ≤ ae ∧ ae ≤ seq.length ∧ rs ≤ re ∧ re ≤ read.length)
    (h : RawMin aw rw c seq.reverse read.reverse as ae rs re e) :
    RawMin aw rw c seq read (seq.length - ae) (seq.length - as) (read.length - re) (read.length - rs) e := by
  intro s hl hr
  have := h s.reverse
    (by rw [lhs_reverse, hl, seg_reverse_of_le _ _ _ hb.1 hb.2.1])
    (by rw [rhs_reverse, hr, seg_reverse_of_le _ _ _ hb.2.2.1 hb.2.2.2])
  rwa [cost_reverse] at this

section
variable {aw rw : Bool} {c : Nat} {thr : Nat → Nat} {mo : Nat} {seq read : Bytes} {as ae rs re e : Nat}

theorem RawSound.toReverse (h : RawSound aw rw c thr mo seq read as ae rs re e) :
    RawSound aw rw c thr mo seq.reverse read.reverse (seq.length - ae) (seq.length - as)
      (read.length - re) (read.length - rs) e := by
  have h' : RawSound aw rw c thr mo seq.reverse.reverse read.reverse.reverse as ae rs re e := by
    rw [List.reverse_reverse, List.reverse_reverse]; exact h
  have := h'.reverse
  rwa [List.length_reverse, List.length_reverse] at this

/-- the documented matching ignores the case of the read, so upper-casing it (`AnywhereAdapter`) changes no alignment -/
theorem script_upperRead_iff (aw rw : Bool) (c : Nat) (xs ys : List Sym) (P : Nat → Prop) :
    (∃ s, lhs s = xs ∧ rhs s = ys.map asciiUpper ∧ P (cost (docMatch aw rw) c s)) ↔
      ∃ s, lhs s = xs ∧ rhs s = ys ∧ P (cost (docMatch aw rw) c s) := by
  simpa using exists_script_map id asciiUpper (docMatch aw rw) (docMatch aw rw) c xs ys
    (fun x _ y => (docMatch_upper aw rw x y).symm) P

theorem RawSound.upperRead_iff :
    RawSound aw rw c thr mo seq (read.map asciiUpper) as ae rs re e ↔ RawSound aw rw c thr mo seq read as ae rs re e := by
  have hs := script_upperRead_iff aw rw c (seg seq as ae) (seg read rs re) (· ≤ e)
  rw [← seg_map] at hs
  exact ⟨fun ⟨hb, hov, h, htol⟩ => ⟨by simpa using hb, hov, hs.mp h, htol⟩,
    fun ⟨hb, hov, h, htol⟩ => ⟨by simpa using hb, hov, hs.mpr h, htol⟩⟩

theorem RawMin.upperRead (h : RawMin aw rw c seq (read.map asciiUpper) as ae rs re e) :
    RawMin aw rw c seq read as ae rs re e := by
  intro s hl hr
  obtain ⟨s', h1, h2, h3⟩ :=
    (script_upperRead_iff aw rw c _ _ (· = cost (docMatch aw rw) c s)).mpr ⟨s, hl, hr, rfl⟩
  rw [← h3]
  exact h s' h1 (by rw [h2, seg_map])

end

theorem errors_lt_indelCost (a : Adapter) (hi : a.indels = false) (hlen : a.seq.length < indelCostOff)
    (hthr : ∀ L, a.thr L ≤ L) {as ae e : Nat} (hae : ae ≤ a.seq.length)
    (htol : e ≤ a.thr (Spec.effLen a.adapterWildcards a.seq as ae)) : e < indelCost a := by
  have hcost : indelCost a = indelCostOff := by unfold indelCost; rw [hi]; rfl
  have := hthr (Spec.effLen a.adapterWildcards a.seq as ae)
  have := spec_effLen_le a.adapterWildcards a.seq as ae hae
  omega

theorem alignerCfg_wf (a : Adapter) (flags : Nat) {seq : Bytes} (hlen : seq.length = a.seq.length)
    (hmono : ∀ x y, x ≤ y → a.thr x ≤ a.thr y) : (alignerCfg a flags).WF seq.length :=
  ⟨indelCost_pos a, hmono, by rw [hlen]; rfl⟩

theorem script_alignerCfg_iff (a : Adapter) (flags : Nat) (seq read : Bytes) (hup : ∀ c ∈ seq, ¬ (97 ≤ c ∧ c ≤ 122))
    (as ae rs re : Nat) (P : Nat → Prop) :
    (∃ s, lhs s = seg (encodeRef (alignerCfg a flags) seq) as ae ∧
        rhs s = seg (encodeQuery (alignerCfg a flags) read) rs re ∧
        P (cost (alignerCfg a flags).eq (alignerCfg a flags).indelCost s)) ↔
      ∃ s, lhs s = seg seq as ae ∧ rhs s = seg read rs re ∧
        P (cost (docMatch a.adapterWildcards a.readWildcards) (indelCost a) s) := by
  rw [encodeRef_eq_map, encodeQuery_eq_map, seg_map, seg_map]
  exact exists_script_map _ _ _ _ _ _ _ (fun x hx y => docMatch_eq_aligner _ _ x y (hup x (mem_of_mem_seg hx))) P

/-- the placement clauses of `SoundResult`: what the four `EndSkip` flags allow to be skipped -/
def FlagPlacement (cfg : Cfg) (m n as ae rs re : Nat) : Prop :=
  (cfg.startInRef = false → as = 0) ∧ (cfg.startInQuery = false → rs = 0) ∧ (as = 0 ∨ rs = 0) ∧
  (cfg.stopInRef = false → ae = m) ∧ (cfg.stopInQuery = false → re = n) ∧ (ae = m ∨ re = n)

theorem soundResult_iff (a : Adapter) (flags : Nat) {seq read : Bytes} (hup : ∀ c ∈ seq, ¬ (97 ≤ c ∧ c ≤ 122))
    {as ae rs re e : Nat} :
    SoundResult (alignerCfg a flags) seq read as ae rs re e ↔
      FlagPlacement (alignerCfg a flags) seq.length read.length as ae rs re ∧
      RawSound a.adapterWildcards a.readWildcards (indelCost a) a.thr a.minOverlap seq read as ae rs re e := by
  have hscr := script_alignerCfg_iff a flags seq read hup as ae rs re (· ≤ e)
  constructor
  · intro hs
    have htol := hs.tolerance
    rw [align_effLen_eq _ _ _ _ hs.h_as hs.h_ae] at htol
    exact ⟨⟨hs.startRef, hs.startQuery, hs.startOne, hs.stopRef, hs.stopQuery, hs.stopOne⟩,
      ⟨hs.h_as, hs.h_ae, hs.h_rs, hs.h_re⟩, hs.overlap, hscr.mp hs.script, htol⟩
  · intro ⟨⟨p1, p2, p3, p4, p5, p6⟩, ⟨b1, b2, b3, b4⟩, hov, hs, htol⟩
    exact ⟨b1, b2, b3, b4, p1, p2, p3, p4, p5, p6, hov, hscr.mpr hs,
      by rw [align_effLen_eq _ _ _ _ b1 b2]; exact htol⟩

theorem locate_raw (a : Adapter) (flags : Nat) (seq read : Bytes) (hlen : seq.length = a.seq.length)
    (hup : ∀ c ∈ seq, ¬ (97 ≤ c ∧ c ≤ 122)) (hmono : ∀ x y, x ≤ y → a.thr x ≤ a.thr y)
    {as ae rs re : Nat} {sc : Int} {e : Nat}
    (h : locate (alignerCfg a flags) seq read = some (as, ae, rs, re, sc, e)) :
    FlagPlacement (alignerCfg a flags) seq.length read.length as ae rs re ∧
    RawSound a.adapterWildcards a.readWildcards (indelCost a) a.thr a.minOverlap seq read as ae rs re e ∧
    RawMin a.adapterWildcards a.readWildcards (indelCost a) seq read as ae rs re e := by
  have hwf := alignerCfg_wf a flags hlen hmono
  obtain ⟨hp, hr⟩ := (soundResult_iff a flags hup).mp (locate_sound _ _ _ hwf h)
  refine ⟨hp, hr, fun s hl hr => ?_⟩
  obtain ⟨s', h1, h2, h3⟩ := (script_alignerCfg_iff a flags seq read hup as ae rs re
    (· = cost (docMatch a.adapterWildcards a.readWildcards) (indelCost a) s)).mpr ⟨s, hl, hr, rfl⟩
  rw [← h3]
  exact Exact.locate_minimal _ _ _ hwf h s' h1 h2

theorem startInRef_eq (a : Adapter) (flags : Nat) : (alignerCfg a flags).startInRef = (flags &&& 1 != 0) := rfl
theorem startInQuery_eq (a : Adapter) (flags : Nat) : (alignerCfg a flags).startInQuery = (flags &&& 2 != 0) := rfl
theorem stopInRef_eq (a : Adapter) (flags : Nat) : (alignerCfg a flags).stopInRef = (flags &&& 4 != 0) := rfl
theorem stopInQuery_eq (a : Adapter) (flags : Nat) : (alignerCfg a flags).stopInQuery = (flags &&& 8 != 0) := rfl

/-- the documented adapter type whose placement rule each `Where` flag set enforces -/
def whereTable : List (Nat × AType) :=
  [(whereFront, .regular5), (whereBack, .regular3), (whereAnywhere, .anywhere), (whereFrontNotInternal, .nonInternal5),
   (whereBackNotInternal, .nonInternal3), (wherePrefix, .anchored5), (whereSuffix, .anchored3)]

-- the table is asked as a `Bool` so that `rfl` answers for the flag set of a class whose other fields are variables
theorem placement_iff_flags (a : Adapter) {flags : Nat} {t : AType} (h : whereTable.contains (flags, t) = true)
    (m n as ae rs re : Nat) :
    FlagPlacement (alignerCfg a flags) m n as ae rs re ↔ Placement t m n as ae rs re := by
  rw [List.contains_iff_mem] at h
  simp only [whereTable, List.mem_cons, Prod.mk.injEq, List.not_mem_nil, or_false] at h
  rcases h with ⟨rfl, rfl⟩ | ⟨rfl, rfl⟩ | ⟨rfl, rfl⟩ | ⟨rfl, rfl⟩ | ⟨rfl, rfl⟩ | ⟨rfl, rfl⟩ | ⟨rfl, rfl⟩
  -- In each row a set bit (1, 2, 4, 8: start in adapter, start in read, stop in adapter, stop in read) makes its clause
  -- `… = false → …` of `FlagPlacement` vacuous, and a clear bit leaves the equation `as = 0`, `rs = 0`, `ae = m` or `re = n`;
  -- these equations, with the two disjunctions they do not already imply, are the row of `Placement`.
  all_goals
    simp only [FlagPlacement, Placement, startInRef_eq, startInQuery_eq, stopInRef_eq, stopInQuery_eq,
      whereFront, whereBack, whereAnywhere, whereFrontNotInternal, whereBackNotInternal, wherePrefix, whereSuffix]
    simp
    -- left where a clause of one side is not literally one of the other
    all_goals omega

theorem cmpEffLen_eq (a : Adapter) (seq : Bytes) (hup : ∀ c ∈ seq, ¬ (97 ≤ c ∧ c ≤ 122)) :
    cmpEffLen (cmpCfg a) seq = Spec.effLen a.adapterWildcards seq 0 seq.length := by
  unfold cmpEffLen Spec.effLen
  show (if a.adapterWildcards = true then _ else _) = _
  split
  · rw [seg_zero_length]
    -- an upper-cased adapter holds no `n`
    have hn : ∀ x ∈ seq, (x == 110) = false := fun x hx => by
      cases h : x == 110
      · rfl
      · exact absurd (by rw [eq_of_beq h]; decide) (hup x hx)
    have h110 : seq.filter (· == 110) = [] := List.filter_eq_nil_iff.mpr fun x hx => by simp [hn x hx]
    have hcongr : seq.filter (fun c => !(c == 78 || c == 110)) = seq.filter (fun c => !(c == 78)) :=
      List.filter_congr fun x hx => by rw [hn x hx, Bool.or_false]
    have hsplit := filter_split (· == 78) seq
    rw [h110, hcongr, List.length_nil]
    omega
  · omega

/-- `PrefixComparer.locate` in documented terms -/
theorem comparePrefix_eq (a : Adapter) (seq read : Bytes) (hmo : a.minOverlap = seq.length) :
    comparePrefix (cmpCfg a) seq read =
      if seq.length ≤ read.length ∧ hamming (docMatch a.adapterWildcards a.readWildcards) seq (seg read 0 seq.length)
          ≤ a.thr (cmpEffLen (cmpCfg a) seq) then
        some (0, seq.length, 0, seq.length,
          ((seq.length - hamming (docMatch a.adapterWildcards a.readWildcards) seq (seg read 0 seq.length) : Nat) : Int)
              * matchScore
            + (hamming (docMatch a.adapterWildcards a.readWildcards) seq (seg read 0 seq.length) : Int) * mismatchScore,
          hamming (docMatch a.adapterWildcards a.readWildcards) seq (seg read 0 seq.length))
      else none := by
  unfold comparePrefix
  generalize cmpEffLen (cmpCfg a) seq = L
  simp only [cmpEncodeRef_eq_map, cmpEncodeQuery_eq_map, List.length_map, cmpCfg]
  rw [mismatches_eq_hamming, hamming_map _ _ _ _ seq read fun x _ y => docMatch_eq_comparer a.adapterWildcards a.readWildcards x y,
    hamming_take, ← seg_zero, hmo]
  generalize hamming _ seq _ = H
  by_cases hle : seq.length ≤ read.length
  · rw [Nat.min_eq_left hle]
    by_cases hH : H ≤ a.thr L
    · simp [hle, hH, Nat.not_lt.mpr hH]
    · simp [hH, Nat.lt_of_not_le hH]
  · rw [Nat.min_eq_right (Nat.le_of_not_le hle)]
    simp [hle, Nat.lt_of_not_le hle]

/-- the comparers' error count is minimal as long as an indel costs more than the adapter is long -/
theorem hamming_rawMin (aw rw : Bool) (c : Nat) (seq read : Bytes) (hlen : seq.length < c) :
    RawMin aw rw c seq read 0 seq.length 0 seq.length (hamming (docMatch aw rw) seq (seg read 0 seq.length)) := by
  intro s hl hr
  rw [seg_zero_length] at hl
  by_cases hc : cost (docMatch aw rw) c s < c
  · obtain ⟨_, h2⟩ := no_indel_script (docMatch aw rw) c s hc
    rw [hl, hr] at h2; omega
  · have := hamming_le_length (docMatch aw rw) seq (seg read 0 seq.length)
    omega

theorem comparePrefix_raw (a : Adapter) (c : Nat) (seq read : Bytes) (hup : ∀ x ∈ seq, ¬ (97 ≤ x ∧ x ≤ 122))
    (hmo : a.minOverlap = seq.length) {as ae rs re : Nat} {sc : Int} {e : Nat}
    (h : comparePrefix (cmpCfg a) seq read = some (as, ae, rs, re, sc, e)) :
    as = 0 ∧ ae = seq.length ∧ rs = 0 ∧ re = seq.length ∧
    RawSound a.adapterWildcards a.readWildcards c a.thr a.minOverlap seq read 0 seq.length 0 seq.length e ∧
    (seq.length < c → RawMin a.adapterWildcards a.readWildcards c seq read 0 seq.length 0 seq.length e) := by
  rw [comparePrefix_eq a seq read hmo] at h
  split at h
  · next hc =>
    simp only [Option.some.injEq, Prod.mk.injEq] at h
    obtain ⟨rfl, rfl, rfl, rfl, _, rfl⟩ := h
    obtain ⟨s, hl, hr, hcost⟩ := sub_script (docMatch a.adapterWildcards a.readWildcards) c seq
      (seg read 0 seq.length) (by rw [seg_length' _ _ _ hc.1]; omega)
    exact ⟨rfl, rfl, rfl, rfl, ⟨⟨Nat.zero_le _, Nat.le_refl _, Nat.zero_le _, hc.1⟩, by omega,
      ⟨s, by rw [hl, seg_zero_length], hr, Nat.le_of_eq hcost⟩, by rw [← cmpEffLen_eq a seq hup]; exact hc.2⟩,
      hamming_rawMin _ _ c seq read⟩
  · cases h

theorem comparePrefix_complete (a : Adapter) (c : Nat) (seq read : Bytes)
    (hup : ∀ x ∈ seq, ¬ (97 ≤ x ∧ x ≤ 122)) (hmo : a.minOverlap = seq.length) {re d : Nat}
    (hocc : RawSound a.adapterWildcards a.readWildcards c a.thr a.minOverlap seq read 0 seq.length 0 re d)
    (hd : d < c) : comparePrefix (cmpCfg a) seq read ≠ none := by
  obtain ⟨⟨_, _, _, b4⟩, _, ⟨s, hl, hr, hc⟩, htol⟩ := hocc
  obtain ⟨hn, hh⟩ := no_indel_script (docMatch a.adapterWildcards a.readWildcards) c s (by omega)
  rw [hl, hr, seg_zero_length] at hn hh
  rw [seg_length' _ _ _ b4] at hn
  obtain rfl : re = seq.length := by omega
  rw [comparePrefix_eq a seq read hmo, cmpEffLen_eq a seq hup, if_pos ⟨b4, by omega⟩]
  exact Option.some_ne_none _

/-- a result whose four coordinates are recomputed from those of another one (`SuffixComparer`, `RightmostFrontAdapter`) -/
theorem recoord_eq_some (f1 f2 f3 f4 : Nat → Nat → Nat → Nat → Nat) (o : Option (Nat × Nat × Nat × Nat × Int × Nat))
    {as ae rs re : Nat} {sc : Int} {e : Nat} :
    (match o with
      | none => none
      | some (x, y, z, w, sc', e') => some (f1 x y z w, f2 x y z w, f3 x y z w, f4 x y z w, sc', e')) =
        some (as, ae, rs, re, sc, e) ↔
      ∃ x y z w, o = some (x, y, z, w, sc, e) ∧ as = f1 x y z w ∧ ae = f2 x y z w ∧ rs = f3 x y z w ∧ re = f4 x y z w := by
  cases o with
  | none => simp
  | some r =>
    obtain ⟨x, y, z, w, sc', e'⟩ := r
    simp only [Option.some.injEq, Prod.mk.injEq]
    constructor
    · rintro ⟨rfl, rfl, rfl, rfl, rfl, rfl⟩
      exact ⟨x, y, z, w, ⟨rfl, rfl, rfl, rfl, rfl, rfl⟩, rfl, rfl, rfl, rfl⟩
    · rintro ⟨_, _, _, _, ⟨rfl, rfl, rfl, rfl, rfl, rfl⟩, rfl, rfl, rfl, rfl⟩
      exact ⟨rfl, rfl, rfl, rfl, rfl, rfl⟩

/-- `SuffixComparer.locate` is the prefix comparer on the reversed strings, with mirrored coordinates -/
theorem compareSuffix_eq_some {c : CmpCfg} {seq read : Bytes} {as ae rs re : Nat} {sc : Int} {e : Nat} :
    compareSuffix c seq read = some (as, ae, rs, re, sc, e) ↔
      ∃ x len y z, comparePrefix c seq.reverse read.reverse = some (x, len, y, z, sc, e) ∧
        as = seq.length - len ∧ ae = seq.length ∧ rs = read.length - len ∧ re = read.length :=
  recoord_eq_some (fun _ len _ _ => seq.length - len) (fun _ _ _ _ => seq.length) (fun _ len _ _ => read.length - len)
    (fun _ _ _ _ => read.length) (comparePrefix c seq.reverse read.reverse)

theorem compareSuffix_raw (a : Adapter) (c : Nat) (seq read : Bytes) (hup : ∀ x ∈ seq, ¬ (97 ≤ x ∧ x ≤ 122))
    (hmo : a.minOverlap = seq.length) {as ae rs re : Nat} {sc : Int} {e : Nat}
    (h : compareSuffix (cmpCfg a) seq read = some (as, ae, rs, re, sc, e)) :
    as = 0 ∧ ae = seq.length ∧ rs = read.length - seq.length ∧ re = read.length ∧
    RawSound a.adapterWildcards a.readWildcards c a.thr a.minOverlap seq read 0 seq.length
      (read.length - seq.length) read.length e ∧
    (seq.length < c → RawMin a.adapterWildcards a.readWildcards c seq read 0 seq.length
      (read.length - seq.length) read.length e) := by
  obtain ⟨x, len, y, z, hcmp, rfl, rfl, rfl, rfl⟩ := compareSuffix_eq_some.mp h
  obtain ⟨_, rfl, _, _, hr, hmin⟩ := comparePrefix_raw a c seq.reverse read.reverse (fun x hx => hup x (List.mem_reverse.mp hx))
    (by rw [List.length_reverse]; exact hmo) hcmp
  simp only [List.length_reverse] at hr hmin
  have hrr := hr.reverse
  have hmm := fun hlen => (hmin hlen).reverse (by simpa using hr.bounds)
  simp only [Nat.sub_self, Nat.sub_zero] at hrr hmm
  exact ⟨by simp, rfl, by simp, rfl, hrr, hmm⟩

theorem compareSuffix_complete (a : Adapter) (c : Nat) (seq read : Bytes)
    (hup : ∀ x ∈ seq, ¬ (97 ≤ x ∧ x ≤ 122)) (hmo : a.minOverlap = seq.length) {rs d : Nat}
    (hocc : RawSound a.adapterWildcards a.readWildcards c a.thr a.minOverlap seq read 0 seq.length rs read.length d)
    (hd : d < c) : compareSuffix (cmpCfg a) seq read ≠ none := by
  have hrev := hocc.toReverse
  simp only [Nat.sub_self, Nat.sub_zero] at hrev
  have hpre := comparePrefix_complete a c seq.reverse read.reverse (fun x hx => hup x (List.mem_reverse.mp hx))
    (by rw [List.length_reverse]; exact hmo) (by rw [List.length_reverse]; exact hrev) hd
  unfold compareSuffix
  split
  · next hn => exact absurd hn hpre
  · exact Option.some_ne_none _

theorem matchTo_eq_some {a : Adapter} {read : Bytes} {mt : SingleMatch} :
    matchTo a read = some mt ↔
      alignment a read = some (mt.astart, mt.astop, mt.rstart, mt.rstop, mt.score, mt.errors) ∧
      mt.before = removesBefore a.ty mt.rstart := by
  unfold matchTo
  split
  · next h => simp [h]
  · next h =>
    rw [h]
    constructor
    · intro hm; cases hm; exact ⟨rfl, rfl⟩
    · obtain ⟨_, _, _, _, _, _, _⟩ := mt
      rintro ⟨hm, hb⟩; cases hm; exact congrArg some (by simp only at hb ⊢; rw [← hb])

theorem matchTo_of_alignment {a : Adapter} {read : Bytes} {as ae rs re : Nat} {sc : Int} {e : Nat}
    (h : alignment a read = some (as, ae, rs, re, sc, e)) :
    matchTo a read = some ⟨as, ae, rs, re, sc, e, removesBefore a.ty rs⟩ := by
  unfold matchTo; rw [h]

/-- `RightmostFrontAdapter`: the result is the mirror image of what the aligner finds on the reversed strings -/
theorem alignment_rightmost {a : Adapter} {read : Bytes} (hty : a.ty = .rightmostFront) (hf : a.forceAnywhere = false)
    {as ae rs re : Nat} {sc : Int} {e : Nat} :
    alignment a read = some (as, ae, rs, re, sc, e) ↔
      ∃ as' ae' rs' re', locate (alignerCfg a whereBack) a.seq.reverse read.reverse = some (as', ae', rs', re', sc, e) ∧
        as = a.seq.length - ae' ∧ ae = a.seq.length - as' ∧ rs = read.length - re' ∧ re = read.length - rs' := by
  have hflags : flagsOf a = whereBack := by unfold flagsOf; rw [hty, hf]; rfl
  unfold alignment
  rw [hty, hflags]
  exact recoord_eq_some (fun _ ae' _ _ => a.seq.length - ae') (fun as' _ _ _ => a.seq.length - as')
    (fun _ _ _ re' => read.length - re') (fun _ _ rs' _ => read.length - rs') _

/-- The classes whose `match_to` runs their aligner on adapter and read as they are. The flag set is a variable and the
    condition a `Bool`, so that for a given class both are settled by `rfl`. -/
theorem alignment_eq_locate {a : Adapter} (read : Bytes) {fl : Nat} (hfl : flagsOf a = fl)
    (hty : (a.ty == .front || a.ty == .back || a.ty == .nonInternalFront || a.ty == .nonInternalBack
      || isAnchored a.ty && a.indels) = true) :
    alignment a read = locate (alignerCfg a fl) a.seq read := by
  subst hfl
  unfold alignment
  cases h : a.ty <;> rw [h] at hty
  case rightmostFront | anywhere => cases hty
  case «prefix» | suffix => rw [show a.indels = true from hty]; rfl
  all_goals rfl

theorem alignment_prefix {a : Adapter} (read : Bytes) (hty : a.ty = .prefix) :
    alignment a read =
      if a.indels then locate (alignerCfg a wherePrefix) a.seq read else comparePrefix (cmpCfg a) a.seq read := by
  unfold alignment flagsOf
  rw [hty]
  cases a.indels <;> rfl

theorem alignment_suffix {a : Adapter} (read : Bytes) (hty : a.ty = .suffix) :
    alignment a read =
      if a.indels then locate (alignerCfg a whereSuffix) a.seq read else compareSuffix (cmpCfg a) a.seq read := by
  unfold alignment flagsOf
  rw [hty]
  cases a.indels <;> rfl

end Cutadapt.MatchSound
