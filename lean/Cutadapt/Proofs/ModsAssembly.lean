import Cutadapt.Proofs.ModsInfo
import Cutadapt.Proofs.StepsShape
import Cutadapt.Proofs.OrderStages
/-! The pipeline assembly: where `makeSteps` puts the info writer, and that the list of `makeModsSingle` meets the
    hypotheses of the pipeline theorems. Core Lean only. -/
namespace Cutadapt

/-- the info writer is in the list and only text writers precede it -/
def InfoFirst (steps : List Step) : Prop :=
  ∃ pre post idx, steps = pre ++ Step.infoWriter idx :: post ∧ ∀ s ∈ pre, s.isTextWriter = true

theorem InfoFirst.append {steps : List Step} (h : InfoFirst steps) (ys : List Step) : InfoFirst (steps ++ ys) := by
  obtain ⟨pre, post, idx, e, hp⟩ := h
  exact ⟨pre, post ++ ys, idx, by rw [e]; simp, hp⟩

theorem infoFirst_addText {p : Option String} {mk : Nat → Step} {st : Files × List Step} (h : InfoFirst st.2) :
    InfoFirst (Steps.addText p mk st).2 := by
  obtain ⟨t, e⟩ := Steps.addText_steps p mk st
  rw [e]
  exact h.append t

theorem infoFirst_addLen {paired : Bool} {mode : PairMode} {l : Option (Option Int × Option Int)} {mk : Int → Pred}
    {out outP : Option String} {st : Files × List Step} (h : InfoFirst st.2) :
    InfoFirst (Steps.addLen paired mode l mk out outP st).2 := by
  obtain ⟨t, e⟩ := Steps.addLen_steps paired mode l mk out outP st
  rw [e]
  exact h.append t

theorem front_infoFirst (o : Opts) (p : String) (hi : o.infoFile = some p) : InfoFirst (Steps.front o).2 := by
  unfold Steps.front
  refine infoFirst_addLen (infoFirst_addLen (infoFirst_addText ?_))
  rw [hi]
  refine ⟨(Steps.addText o.restFile .restWriter ({}, [])).2, [], _, rfl, ?_⟩
  cases o.restFile <;> simp [Steps.addText, Step.isTextWriter]

/-- **`make_pipeline_from_args` puts the info writer before every filter** (only the rest-file writer can precede it) -/
theorem makeSteps_infoFirst {o : Opts} {names names2 : List String} {p : String} (hi : o.infoFile = some p) {res}
    (h : makeSteps o names names2 = .ok res) : InfoFirst res.1 := by
  obtain ⟨dm, _, _, _, e⟩ := Steps.makeSteps_ok (steps := res.1) (f := res.2) h
  obtain ⟨t, ht⟩ := Steps.finalD_steps o names names2 (o.pairFilter.getD .any) dm (Steps.front o).1
    ((Steps.front o).2 ++ Steps.simpleSteps o)
  rw [show res.1 = (res.1, res.2).1 from rfl, e, ht]
  exact ((front_infoFirst o p hi).append _).append _

/-- no adapter stage (rank 3) and no zero-capper in the list. The renamer shares rank 10 with the zero-capper, hence
    `capBases` and not the rank. -/
def Neutral (l : List SMod) : Prop := ∀ b ∈ l, stageRank b ≠ 3 ∧ b.capBases = []

/-- a stage of any rank but 3 and 10 (the two ranks that hold an adapter stage or a zero-capper) -/
theorem neutral_of_rank {l : List SMod} {k : Nat} (h : ∀ b ∈ l, stageRank b = k) (hk : k ≠ 3 ∧ k ≠ 10) : Neutral l := by
  intro b hb
  have hr := h b hb
  refine ⟨hr ▸ hk.1, ?_⟩
  -- `capBases` is `[]` by definition except for `.zeroCap`, whose rank is 10
  cases b <;> first | rfl | exact absurd hr.symm hk.2

/-- what the pipeline theorems ask of a modifier list, in a form that is additive over `++` -/
def StageHyps (P : Bool → Prop) (k : Nat) (bs : List Nat) (l : List SMod) : Prop :=
  revcompStages l = k ∧ zeroCapBases l = bs ∧ ∀ s, P s → ∀ m ∈ l, m.OK s

theorem StageHyps.append {P : Bool → Prop} {k k' : Nat} {bs bs' : List Nat} {l l' : List SMod}
    (h : StageHyps P k bs l) (h' : StageHyps P k' bs' l') : StageHyps P (k + k') (bs ++ bs') (l ++ l') := by
  obtain ⟨rfl, rfl, h3⟩ := h
  obtain ⟨rfl, rfl, h3'⟩ := h'
  refine ⟨?_, List.flatMap_append, ?_⟩
  · simp only [revcompStages, List.filter_append, List.length_append]
  · intro s hs m hm
    rcases List.mem_append.mp hm with hm | hm
    · exact h3 s hs m hm
    · exact h3' s hs m hm

/-- such a list is covered whatever the action, has no reverse-complementing stage and does not zero-cap -/
theorem Neutral.hyps {l : List SMod} (h : Neutral l) (P : Bool → Prop) : StageHyps P 0 [] l := by
  have hm : ∀ m ∈ l, (∀ s, m.OK s) ∧ m.isRevcomp = false := fun m hm => by
    have := (h m hm).1
    cases m <;> first | exact ⟨fun _ => trivial, rfl⟩ | exact absurd rfl this
  refine ⟨?_, ?_, ?_⟩
  · refine List.length_eq_zero_iff.mpr (List.filter_eq_nil_iff.mpr ?_)
    intro m hx
    rw [(hm m hx).2]
    exact Bool.false_ne_true
  · exact List.flatMap_eq_nil_iff.mpr fun m hx => (h m hx).2
  · exact fun s _ m hx => (hm m hx).1 s

/-- `makeSingle` succeeds exactly with the steps of `makeSteps` and the modifiers of `makeModsSingle` -/
theorem makeSingle_ok (o : Opts) (ads : List Matchable) (p : SinglePipeline) (fs : Files)
    (h : makeSingle o ads = .ok (p, fs)) :
    ∃ steps mods, makeSteps o (namesOf ads) [] = .ok (steps, fs) ∧ makeModsSingle o ads = .ok mods ∧
      p = ⟨ads, mods, steps⟩ := by
  unfold makeSingle at h
  split at h
  · cases h
  · obtain ⟨⟨steps, f⟩, hsteps, h⟩ := Steps.bind_ok h
    obtain ⟨mods, hmods, h⟩ := Steps.bind_ok h
    cases h
    exact ⟨steps, mods, hsteps, hmods, rfl⟩

/-- **The modifier lists the CLI builds satisfy the hypotheses of the pipeline theorems**: at most one
    reverse-complementing stage, a single zero-capper (iff `-z`), and every modifier is covered as soon as the one cutter
    built from `--action`, `--times` and the adapters is -/
theorem makeModsSingle_hyps {o : Opts} {ads : List Matchable} {mods : List SMod} (h : makeModsSingle o ads = .ok mods) :
    revcompStages mods ≤ 1 ∧ zeroCapBases mods = (if o.zeroCap then [o.qualityBase.toNat] else []) ∧
    ∀ s, CutterOK s ⟨ads, o.times, o.action⟩ → ∀ m ∈ mods, m.OK s := by
  rw [eq_documentedSingle_of_ok h, documentedSingle]
  generalize (cutStage o.cut ++ nextseqStage o ++ qtrimStage o.qualityCutoff o.qualityBase).isEmpty = first
  let P (s : Bool) : Prop := CutterOK s ⟨ads, o.times, o.action⟩
  -- the renamer has rank 10 like the zero-capper, so it is neutral by its shape and not by its rank
  have hR : StageHyps P 0 [] (renameStage o) := by
    refine Neutral.hyps (fun b hb => ?_) P
    unfold renameStage at hb
    split at hb
    · cases List.mem_singleton.mp hb
      exact ⟨(by decide : (10 : Nat) ≠ 3), rfl⟩
    · cases hb
  -- the adapter stage: at most one modifier, not a zero-capper, covered as soon as its cutter is
  have hS : ∃ k, k ≤ 1 ∧ StageHyps P k [] (adapterStage o ads first) := by
    unfold adapterStage
    split
    · exact ⟨0, Nat.zero_le _, rfl, rfl, fun _ _ _ hm => nomatch hm⟩
    · have covered (m : SMod) (hm : ∀ s, P s → m.OK s) : ∀ s, P s → ∀ m' ∈ [m], m'.OK s := by
        intro s hs m' hm'
        cases List.mem_singleton.mp hm'
        exact hm s hs
      split
      · exact ⟨1, Nat.le_refl _, rfl, rfl, covered _ fun _ hs => hs⟩
      · exact ⟨0, Nat.zero_le _, rfl, rfl, covered _ fun _ hs => hs⟩
  obtain ⟨k, hk, hS⟩ := hS
  have hZ : StageHyps P 0 (if o.zeroCap then [o.qualityBase.toNat] else []) (zeroCapStage o) := by
    unfold zeroCapStage
    split
    · refine ⟨rfl, rfl, ?_⟩
      intro s _ m hm
      cases List.mem_singleton.mp hm
      trivial
    · exact ⟨rfl, rfl, fun _ _ _ hm => nomatch hm⟩
  obtain ⟨h1, h2, h3⟩ :=
    (neutral_of_rank (rank_cutStage o.cut) (by decide)).hyps P
      |>.append ((neutral_of_rank (rank_nextseqStage o) (by decide)).hyps P)
      |>.append ((neutral_of_rank (rank_qtrimStage o.qualityCutoff o.qualityBase) (by decide)).hyps P)
      |>.append hS
      |>.append ((neutral_of_rank (rank_polyAStage o) (by decide)).hyps P)
      |>.append ((neutral_of_rank (rank_shortenStage o) (by decide)).hyps P)
      |>.append ((neutral_of_rank (rank_trimNStage o) (by decide)).hyps P)
      |>.append ((neutral_of_rank (rank_lengthTagStage o) (by decide)).hyps P)
      |>.append ((neutral_of_rank (rank_stripSuffixStage o) (by decide)).hyps P)
      |>.append ((neutral_of_rank (rank_prefixSuffixStage o) (by decide)).hyps P)
      |>.append hZ
      |>.append hR
  refine ⟨?_, h2.trans (List.append_nil _), h3⟩
  rw [h1, Nat.zero_add]
  exact hk

end Cutadapt
