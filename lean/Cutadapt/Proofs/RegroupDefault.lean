import Cutadapt.Proofs.RegroupMain
import Cutadapt.Properties.C09
/-! The default (index-enabled) pipeline when no index can be built: extra obligations of C09 ("ties go to the adapter given first
    (no index involved)"). -/
namespace Cutadapt.C09
open Cutadapt Cutadapt.Adapters

/-- **Without at least two indexable anchored adapters of one kind the default pipeline is the `--no-index` pipeline**: the cutter
    iterates over the adapters exactly as given (same list, same order, same modifiers, same steps, same files), so everything
    `Properties/C09.lean` proves about `bestMatch` over the given list — best score, then fewer errors, then *the adapter given first* — holds for cutadapt's
    default mode too. -/
theorem default_pipeline_without_index (o : Opts) (ads : List Matchable)
    (h1 : (splitAdapters ads).1.length ≤ 1) (h2 : (splitAdapters ads).2.1.length ≤ 1) :
    (makeSingleIndexed o ads).map (fun r => (r.1, r.2.1)) = makeSingle o ads := by
  have hr : (regroup ads).ads = ads := C08.regroup_noop ads h1 h2
  unfold makeSingleIndexed makeSingle
  simp only [hr]
  cases hc : (o.untrimmedPaired.isSome || o.pairAdapters)
  · simp only [Bool.false_eq_true, if_false]
    cases hs : makeSteps o (namesOf ads) [] with
    | error e => rfl
    | ok sf =>
      obtain ⟨steps, f⟩ := sf
      cases hm : makeModsSingle o ads with
      | error e => rfl
      | ok mods => rfl
  · simp [throw, throwThe, MonadExceptOf.throw, Except.map, bind, Except.bind]

/-- the same for either read of a pair -/
theorem default_paired_pipeline_without_index (o : Opts) (ads1 ads2 : List Matchable)
    (h1 : (splitAdapters ads1).1.length ≤ 1) (h2 : (splitAdapters ads1).2.1.length ≤ 1)
    (h3 : (splitAdapters ads2).1.length ≤ 1) (h4 : (splitAdapters ads2).2.1.length ≤ 1) :
    (makePairedIndexed o ads1 ads2).map (fun r => (r.1, r.2.1)) = makePaired o ads1 ads2 := by
  have hr1 : (regroup ads1).ads = ads1 := C08.regroup_noop ads1 h1 h2
  have hr2 : (regroup ads2).ads = ads2 := C08.regroup_noop ads2 h3 h4
  unfold makePairedIndexed makePaired
  cases hp : o.pairAdapters <;> simp only [hr1, hr2, Bool.false_eq_true, if_false, if_true]
  all_goals
    cases hc : checkArguments o with
    | error e => rfl
    | ok u =>
      cases hs : makeSteps o (namesOf ads1) (namesOf ads2) with
      | error e => rfl
      | ok sf =>
        obtain ⟨steps, f⟩ := sf
        cases hm : makeModsPaired o ads1 ads2 with
        | error e => rfl
        | ok mods => rfl

end Cutadapt.C09
