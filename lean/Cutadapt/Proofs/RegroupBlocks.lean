import Cutadapt.Regroup
/-! `_regroup_into_indexed_adapters` treats the anchored 5' and the anchored 3' adapters alike: each kind becomes one block
    of the new list — an index object if there are at least two, the adapters themselves otherwise. -/
namespace Cutadapt.C08
open Cutadapt Cutadapt.Adapters

/-- the entries (with their origins) that stand for the indexable adapters `l` of one kind -/
def block (p : Bool) (l : List (Adapter × Nat)) (ids : List Nat) : List (Matchable × Option Nat) :=
  if l.length > 1 then [(.indexed (Index.makeIndex Index.hashOps (l.map (·.1)) p) ids, none)]
  else l.map fun q => (.single q.1, some q.2)

/-- the origins of the rows that the memberRows of an index object get behind the list -/
def memberRows (l : List (Adapter × Nat)) : List (Option Nat) := if l.length > 1 then l.map fun q => some q.2 else []

/-- the local `entries` of `_regroup_into_indexed_adapters`: the other adapters, then the 5' block, then the 3' block -/
def entries (ads : List Matchable) (ids1 ids2 : List Nat) : List (Matchable × Option Nat) :=
  ((splitAdapters ads).2.2.map fun p => (p.1, some p.2)) ++ block true (splitAdapters ads).1 ids1 ++
    block false (splitAdapters ads).2.1 ids2

/-- `regroup` when it regroups: the other adapters, the 5' block, the 3' block; behind their origins the member rows -/
theorem regroup_eq (ads : List Matchable)
    (h : ((splitAdapters ads).1.length > 1 || (splitAdapters ads).2.1.length > 1) = true) :
    ∃ ids1 ids2, regroup ads = ⟨(entries ads ids1 ids2).map (·.1),
      (entries ads ids1 ids2).map (·.2) ++ memberRows (splitAdapters ads).1 ++ memberRows (splitAdapters ads).2.1⟩ := by
  -- the ids are the model's `preIds` and `sufIds`, found by `rfl`; a kind that is not indexed has none
  unfold entries
  by_cases c1 : (splitAdapters ads).1.length > 1
  · by_cases c2 : (splitAdapters ads).2.1.length > 1
    · refine ⟨?_, ?_, ?eq⟩
      case eq =>
        simp only [regroup, c1, c2, block, memberRows, decide_true, Bool.true_or, if_true]
        rfl
    · refine ⟨?_, [], ?eq⟩
      case eq =>
        simp only [regroup, c1, c2, block, memberRows, decide_true, decide_false, Bool.true_or, if_true, if_false]
        rfl
  · have c2 : (splitAdapters ads).2.1.length > 1 := by simpa [c1] using h
    refine ⟨[], ?_, ?eq⟩
    case eq =>
      simp only [regroup, c1, c2, block, memberRows, decide_true, decide_false, Bool.or_true, if_true, if_false]
      rfl

/-- … and when it does not: "avoid re-ordering the adapters when we don't need to" -/
theorem regroup_of_not (ads : List Matchable)
    (h : ¬ ((splitAdapters ads).1.length > 1 || (splitAdapters ads).2.1.length > 1) = true) :
    regroup ads = ⟨ads, (List.range ads.length).map some⟩ := by
  rw [regroup, if_neg h]

theorem mem_block {p : Bool} {l : List (Adapter × Nat)} {ids : List Nat} {x : Matchable × Option Nat}
    (h : x ∈ block p l ids) :
    (∃ q ∈ l, x = (.single q.1, some q.2)) ∨
    (x = (.indexed (Index.makeIndex Index.hashOps (l.map (·.1)) p) ids, none) ∧ 2 ≤ l.length) := by
  unfold block at h
  split at h
  · exact .inr ⟨List.mem_singleton.mp h, ‹_›⟩
  · obtain ⟨q, hq, rfl⟩ := List.mem_map.mp h
    exact .inl ⟨q, hq, rfl⟩

/-- every adapter of the block has exactly one row that points back at it: its own entry, or its member row -/
theorem block_origin (p : Bool) (l : List (Adapter × Nat)) (ids : List Nat) :
    ((block p l ids).map (·.2)).filterMap id ++ (memberRows l).filterMap id = l.map (·.2) := by
  unfold block memberRows
  split <;> simp [List.filterMap_map, Function.comp_def]

end Cutadapt.C08
