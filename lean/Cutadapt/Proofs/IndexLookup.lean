import Cutadapt.Index
/-! Look-up through the index: `_match_to_one_length`, `_match_to_multiple_lengths` on N-free reads of any length, and the
    coordinates of the result for every read. -/
namespace Cutadapt.Index
open Cutadapt Cutadapt.Adapters

theorem getD_of_getElem? {α : Type} {l : List α} {i : Nat} {a : α} (d : α) (h : l[i]? = some a) : l.getD i d = a := by
  simp [List.getD_eq_getElem?_getD, h]

/-- the affix of length `len` at the anchored end -/
def removedAffix (isPrefix : Bool) (up : Bytes) (len : Nat) : Bytes :=
  if isPrefix then up.take len else up.drop (up.length - len)

theorem makeAffix_prefix (s : Bytes) (l : Nat) : makeAffix true s l = s.take l := by
  simp only [makeAffix, if_true, pySlice, normBound, seg]
  have : ¬ ((l : Int) < 0) := by omega
  simp only [this, if_false, Int.toNat_natCast, List.drop_zero]
  rw [List.take_eq_take_iff]; omega

theorem makeAffix_suffix (s : Bytes) (l : Nat) :
    makeAffix false s l = if l = 0 then s else s.drop (s.length - l) := by
  simp only [makeAffix, Bool.false_eq_true, if_false, pySlice, normBound, seg, List.take_length]
  by_cases h0 : l = 0
  · subst h0; simp
  · have : (-(l : Int) < 0) := by omega
    simp only [this, if_true, h0, if_false]
    congr 1
    omega

theorem makeAffix_removed (p : Bool) (s : Bytes) (l : Nat) (h : p = false → 1 ≤ l) :
    makeAffix p s l = removedAffix p s l := by
  cases p with
  | true => simp [makeAffix_prefix, removedAffix]
  | false =>
    have : l ≠ 0 := by have := h rfl; omega
    simp [makeAffix_suffix, removedAffix, this]

theorem makeAffix_length_le_self (p : Bool) (s : Bytes) (l : Nat) : (makeAffix p s l).length ≤ s.length := by
  cases p with
  | true => rw [makeAffix_prefix]; simp; omega
  | false =>
    rw [makeAffix_suffix]
    split
    · exact Nat.le_refl _
    · simp

theorem removedAffix_length (p : Bool) (s : Bytes) (l : Nat) : (removedAffix p s l).length = min l s.length := by
  cases p <;> simp [removedAffix] <;> omega

theorem removedAffix_full (p : Bool) (s : Bytes) : removedAffix p s s.length = s := by
  cases p <;> simp [removedAffix]

theorem removedAffix_thread (p : Bool) (s : Bytes) (l1 l2 : Nat) (h12 : l2 ≤ l1) (h1 : l1 ≤ s.length) :
    removedAffix p (removedAffix p s l1) l2 = removedAffix p s l2 := by
  cases p with
  | true =>
    simp only [removedAffix, if_true, List.take_take]
    congr 1; omega
  | false =>
    simp only [removedAffix, Bool.false_eq_true, if_false, List.length_drop, List.drop_drop]
    congr 1; omega

theorem removedAffix_subset (p : Bool) (s : Bytes) (l : Nat) : ∀ c ∈ removedAffix p s l, c ∈ s := by
  intro c hc
  cases p with
  | true => exact List.mem_of_mem_take (by simpa [removedAffix] using hc)
  | false => exact List.mem_of_mem_drop (by simpa [removedAffix] using hc)

theorem lookupAffix_nfree {D : Type} (ops : DictOps D) (idx : AdapterIndex D) (affix : Bytes) (length : Nat)
    (hN : (78 : UInt8) ∉ affix) {ai e ml : Nat} {sc : Int} (h : lookupAffix ops idx affix length = some (ai, e, sc, ml)) :
    ∃ m : Nat, sc = (m : Int) ∧ ml = length ∧ ops.get? idx.index affix = some (ai, e, m) := by
  have hc : affix.contains 78 = false := by simpa using hN
  simp only [lookupAffix, hc, Bool.false_eq_true, if_false] at h
  split at h
  · cases h
  · rename_i hg
    cases h
    exact ⟨_, rfl, rfl, hg⟩

/-- the C01 fact used for reads with `N` (`C01.matchTo_sound … .bounds`): a re-alignment lies inside its string -/
def RealignInside (adapters : List Adapter) : Prop :=
  ∀ a ∈ adapters, ∀ (affix : Bytes) (mt : SingleMatch), matchTo a affix = some mt →
    mt.rstart ≤ mt.rstop ∧ mt.rstop ≤ affix.length

/-- `match_length` never exceeds the affix, unless it is the looked-up length itself -/
theorem lookupAffix_matchLength {D : Type} (ops : DictOps D) (idx : AdapterIndex D)
    (hvalid : ∀ s ai e m, ops.get? idx.index s = some (ai, e, m) → idx.adapters.getD ai default ∈ idx.adapters)
    (hre : RealignInside idx.adapters) (affix : Bytes) (length : Nat) {ai e ml : Nat} {sc : Int}
    (h : lookupAffix ops idx affix length = some (ai, e, sc, ml)) :
    ml ≤ affix.length ∨ (ml = length ∧ ∃ m : Nat, ops.get? idx.index affix = some (ai, e, m)) := by
  simp only [lookupAffix] at h
  split at h
  · left
    simp only [lookupWithN] at h
    split at h
    · cases h
    · rename_i hg
      split at h
      · cases h
      · rename_i mt hmt
        cases h
        have := hre _ (hvalid _ _ _ _ hg) affix mt hmt
        omega
  · right
    split at h
    · cases h
    · rename_i hg
      cases h
      exact ⟨rfl, _, hg⟩

theorem makeMatch_spec {D : Type} (idx : AdapterIndex D) (ai len : Nat) (sc : Int) (e : Nat) (read : Bytes)
    (mt : IndexMatch) (h : mt = makeMatch idx ai len sc e read) :
    mt.adapter = ai ∧ mt.astart = 0 ∧ mt.astop = (idx.adapters.getD ai default).seq.length ∧ mt.score = sc ∧
    mt.errors = e ∧
    (if idx.isPrefix then mt.rstart = 0 ∧ mt.rstop = len
     else mt.rstart = (read.length : Int) - len ∧ mt.rstop = read.length) := by
  subst h
  unfold makeMatch
  split <;> simp

theorem makeMatch_coords {D : Type} (idx : AdapterIndex D) (ai len : Nat) (sc : Int) (e : Nat) (read : Bytes)
    (hlen : len ≤ read.length) (mt : IndexMatch) (h : mt = makeMatch idx ai len sc e read) :
    0 ≤ mt.rstart ∧ mt.rstart ≤ mt.rstop ∧ mt.rstop ≤ read.length ∧
    (if idx.isPrefix then mt.rstart = 0 else mt.rstop = read.length) := by
  have h := (makeMatch_spec idx ai len sc e read mt h).2.2.2.2.2
  cases hp : idx.isPrefix <;> simp only [hp, Bool.false_eq_true, if_false, if_true] at h ⊢ <;> omega

/-- what `best_adapter / best_length / best_m / best_e` hold: nothing yet, or a hit at one of the indexed lengths that
    fits into the read -/
def GoodBest {D : Type} (ops : DictOps D) (idx : AdapterIndex D) (up : Bytes) (b : BestSoFar) : Prop :=
  b.m = -1 ∨ ∃ m : Nat, b.m = (m : Int) ∧ b.length ∈ idx.lengths ∧ b.length ≤ up.length ∧
    ops.get? idx.index (removedAffix idx.isPrefix up b.length) = some (b.adapter, b.e, m)

theorem multiLoop_good {D : Type} (ops : DictOps D) (idx : AdapterIndex D) (up : Bytes) (hN : (78 : UInt8) ∉ up)
    (hpos : idx.isPrefix = false → ∀ l ∈ idx.lengths, 1 ≤ l) :
    ∀ (ls : List Nat) (L : Nat) (best : BestSoFar), (∀ l ∈ ls, l ∈ idx.lengths) → ls.Pairwise (· ≥ ·) →
      (∀ l ∈ ls, l ≤ up.length → l ≤ L) → L ≤ up.length → GoodBest ops idx up best →
      GoodBest ops idx up (multiLoop ops idx up.length ls (removedAffix idx.isPrefix up L) best) := by
  intro ls
  induction ls with
  | nil => intro L best _ _ _ _ hb; simpa [multiLoop] using hb
  | cons length rest ih =>
    intro L best hmem hpw hle hL hb
    rw [List.pairwise_cons] at hpw
    have hlenmem : length ∈ idx.lengths := hmem length (by simp)
    simp only [multiLoop]
    split
    · exact hb
    · split
      · -- longer than the read: skipped, the affix is left alone
        exact ih L best (fun l hl => hmem l (by simp [hl])) hpw.2 (fun l hl => hle l (by simp [hl])) hL hb
      · rename_i hgt
        have hlen_n : length ≤ up.length := by omega
        have hlenL : length ≤ L := hle length (by simp) hlen_n
        have haff : makeAffix idx.isPrefix (removedAffix idx.isPrefix up L) length = removedAffix idx.isPrefix up length := by
          rw [makeAffix_removed _ _ _ (fun hp => hpos hp length hlenmem)]
          exact removedAffix_thread _ _ _ _ hlenL hL
        have hrec : ∀ b, GoodBest ops idx up b →
            GoodBest ops idx up (multiLoop ops idx up.length rest (removedAffix idx.isPrefix up length) b) := by
          intro b hb'
          exact ih length b (fun l hl => hmem l (by simp [hl])) hpw.2 (fun l hl _ => hpw.1 l hl) hlen_n hb'
        simp only [haff]
        split
        · exact hrec best hb
        · rename_i ai e m ml hlk
          have hNa : (78 : UInt8) ∉ removedAffix idx.isPrefix up length :=
            fun hc => hN (removedAffix_subset _ _ _ _ hc)
          obtain ⟨m', rfl, rfl, hg⟩ := lookupAffix_nfree ops idx _ length hNa hlk
          split
          · exact hrec _ (.inr ⟨m', rfl, hlenmem, hlen_n, hg⟩)
          · exact hrec best hb

theorem multiLoop_length_le {D : Type} (ops : DictOps D) (idx : AdapterIndex D)
    (hvalid : ∀ s ai e m, ops.get? idx.index s = some (ai, e, m) → idx.adapters.getD ai default ∈ idx.adapters)
    (hre : RealignInside idx.adapters) (n : Nat) :
    ∀ (ls : List Nat) (affix : Bytes) (best : BestSoFar), affix.length ≤ n → best.length ≤ n →
      (multiLoop ops idx n ls affix best).length ≤ n := by
  intro ls
  induction ls with
  | nil => intro affix best _ hb; simpa [multiLoop] using hb
  | cons length rest ih =>
    intro affix best ha hb
    simp only [multiLoop]
    split
    · exact hb
    · split
      · exact ih affix best ha hb
      · rename_i hgt
        have ha' : (makeAffix idx.isPrefix affix length).length ≤ n :=
          Nat.le_trans (makeAffix_length_le_self _ _ _) ha
        split
        · exact ih _ best ha' hb
        · rename_i ai e m ml hlk
          split
          · apply ih _ _ ha'
            rcases lookupAffix_matchLength ops idx hvalid hre _ _ hlk with h' | ⟨h', _⟩
            · exact Nat.le_trans h' ha'
            · exact h' ▸ Nat.le_of_not_gt hgt
          · exact ih _ best ha' hb

theorem indexMatchTo_eq_some {D : Type} {ops : DictOps D} {idx : AdapterIndex D} {read : Bytes} {mt : IndexMatch}
    (h : indexMatchTo ops idx read = some mt) :
    (∃ l0 ai e sc len, idx.lengths = [l0] ∧
      lookupAffix ops idx (makeAffix idx.isPrefix (read.map asciiUpper) l0) l0 = some (ai, e, sc, len) ∧
      mt = makeMatch idx ai len sc e read) ∨
    ∃ best, multiLoop ops idx read.length idx.lengths (read.map asciiUpper) {} = best ∧ best.m ≠ -1 ∧
      mt = makeMatch idx best.adapter best.length best.m best.e read := by
  simp only [indexMatchTo] at h
  split at h
  · rename_i h1
    obtain ⟨l0, hl0⟩ := List.length_eq_one_iff.mp (beq_iff_eq.mp h1)
    simp only [matchToOneLength, hl0, List.headD_cons] at h
    split at h
    · cases h
    · exact .inl ⟨l0, _, _, _, _, hl0, ‹_›, (Option.some.inj h).symm⟩
  · simp only [matchToMultipleLengths] at h
    split at h
    · cases h
    · exact .inr ⟨_, rfl, ‹_›, (Option.some.inj h).symm⟩

/-- **Key-level soundness of the look-up**, for every N-free read (short ones included): a match returned through the
    index was found as a dictionary key — it is the match built for a removed affix (of the upper-cased read), at one of
    the indexed lengths that fits into the read, that is a key, with the adapter, errors and matches of its entry.
    `hkeys`: the length of every key is one of the indexed lengths (true of `_make_index`). -/
theorem indexMatchTo_key {D : Type} (ops : DictOps D) (idx : AdapterIndex D) (read : Bytes)
    (hN : (78 : UInt8) ∉ read.map asciiUpper)
    (hdesc : idx.lengths.Pairwise (· ≥ ·))
    (hkeys : ∀ s en, ops.get? idx.index s = some en → s.length ∈ idx.lengths)
    (hpos : idx.isPrefix = false → ∀ l ∈ idx.lengths, 1 ≤ l)
    (mt : IndexMatch) (h : indexMatchTo ops idx read = some mt) :
    ∃ (ai len m e : Nat), mt = makeMatch idx ai len (m : Int) e read ∧ len ∈ idx.lengths ∧ len ≤ read.length ∧
      ops.get? idx.index (removedAffix idx.isPrefix (read.map asciiUpper) len) = some (ai, e, m) := by
  have hupl : (read.map asciiUpper).length = read.length := by simp
  rcases indexMatchTo_eq_some h with ⟨l0, ai, e, sc, len, hl0, hlk, rfl⟩ | ⟨best, hbest, hne, rfl⟩
  · have hmem : l0 ∈ idx.lengths := by simp [hl0]
    have hpos0 : idx.isPrefix = false → 1 ≤ l0 := fun hp => hpos hp l0 hmem
    rw [makeAffix_removed _ _ _ hpos0] at hlk
    obtain ⟨m', rfl, rfl, hg⟩ := lookupAffix_nfree ops idx _ l0 (fun hc => hN (removedAffix_subset _ _ _ _ hc)) hlk
    -- the key has length l0, so the read is not shorter than l0
    have hkl := hkeys _ _ hg
    rw [hl0, List.mem_singleton, removedAffix_length, hupl] at hkl
    exact ⟨ai, _, m', e, rfl, hmem, by omega, hg⟩
  · have hgood := multiLoop_good ops idx (read.map asciiUpper) hN hpos idx.lengths read.length {}
      (fun l hl => hl) hdesc (fun l _ hl => by omega) (by omega) (Or.inl rfl)
    rw [← hupl, removedAffix_full, hupl, hbest] at hgood
    rcases hgood with hm1 | ⟨m', hm', hmem, hln, hg⟩
    · exact absurd hm1 hne
    · exact ⟨_, _, m', _, by rw [← hm'], hmem, hupl ▸ hln, hg⟩

theorem indexMatchTo_one_hit {D : Type} (ops : DictOps D) (idx : AdapterIndex D) (read : Bytes) (L : Nat)
    (hlens : idx.lengths = [L]) (hN : (78 : UInt8) ∉ read.map asciiUpper) (hpos : idx.isPrefix = false → 1 ≤ L)
    (ai e m : Nat)
    (hg : ops.get? idx.index (removedAffix idx.isPrefix (read.map asciiUpper) L) = some (ai, e, m)) :
    indexMatchTo ops idx read = some (makeMatch idx ai L (m : Int) e read) := by
  simp only [indexMatchTo, hlens, List.length_singleton, beq_self_eq_true, if_true, matchToOneLength, List.headD_cons]
  rw [makeAffix_removed _ _ _ hpos]
  have hc : (removedAffix idx.isPrefix (read.map asciiUpper) L).contains 78 = false := by
    simpa using fun hc => hN (removedAffix_subset _ _ _ _ hc)
  simp only [lookupAffix, hc, Bool.false_eq_true, if_false, hg]

/-- **Coordinates inside the read, for every read** (with or without `N`, of any length). -/
theorem indexMatchTo_coords {D : Type} (ops : DictOps D) (idx : AdapterIndex D) (read : Bytes)
    (hvalid : ∀ s ai e m, ops.get? idx.index s = some (ai, e, m) → idx.adapters.getD ai default ∈ idx.adapters)
    (hkeys : ∀ s en, ops.get? idx.index s = some en → s.length ∈ idx.lengths)
    (hre : RealignInside idx.adapters)
    (mt : IndexMatch) (h : indexMatchTo ops idx read = some mt) :
    0 ≤ mt.rstart ∧ mt.rstart ≤ mt.rstop ∧ mt.rstop ≤ read.length ∧
    (if idx.isPrefix then mt.rstart = 0 else mt.rstop = read.length) := by
  have hupl : (read.map asciiUpper).length = read.length := by simp
  -- in both branches the match is `makeMatch idx _ len _ _ read` with `len ≤ n`
  rcases indexMatchTo_eq_some h with ⟨l0, ai, e, sc, len, hl0, hlk, rfl⟩ | ⟨best, rfl, _, rfl⟩
  · refine makeMatch_coords idx ai len sc e read ?_ _ rfl
    have hal := makeAffix_length_le_self idx.isPrefix (read.map asciiUpper) l0
    rcases lookupAffix_matchLength ops idx hvalid hre _ _ hlk with h' | ⟨h', m', hg⟩
    · omega
    · have := hkeys _ _ hg
      rw [hl0, List.mem_singleton] at this
      omega
  · exact makeMatch_coords idx _ _ _ _ read
      (multiLoop_length_le ops idx hvalid hre read.length idx.lengths _ {} (by omega) (Nat.zero_le _)) _ rfl

/-- `-g "^ACGTACGTAC;noindels" -g "^TTGCAATTGC"`, one error each (`C08.mkA .prefix … 1 false` and `… 1 true`, written out
    because `mkA` is defined in C08): the two look-ups of C08 on this index. They are stated together, as a function of the
    index, because building the index is nearly all of the work and the kernel shares it within one declaration. -/
theorem noindels_vectors :
    (fun ix => indexMatchTo alistOps ix [65,67,71,84,65,67,67,71,84,65,67,65,67,65,67,67,71,84,84,84,84] = none ∧
      indexMatchTo alistOps ix [84,84,71,67,65,84,84,71,67,65,65,65] = some ⟨1, 0, 10, 0, 9, 9, 1⟩)
    (makeIndex alistOps
      [{ ty := .prefix, seq := [65,67,71,84,65,67,71,84,65,67], thr := fun _ => 1, minOverlap := 10, readWildcards := false,
         adapterWildcards := false, indels := false },
       { ty := .prefix, seq := [84,84,71,67,65,65,84,84,71,67], thr := fun _ => 1, minOverlap := 10, readWildcards := false,
         adapterWildcards := false, indels := true }] true) := by
  decide +kernel

end Cutadapt.Index
