import Cutadapt.Index
import Cutadapt.Proofs.Script
/-! `edit_environment(t, k)` (model: `Cutadapt.Index.editEnvironment`) for an adapter `t` over ACGT:
    * `editEnvironment_sound`: every yielded `(s, e, m)` has `s` over ACGT, `e ≤ k`, and `e` is the unit-cost edit
      distance between `t` and `s`;
    * `editEnvironment_complete`: every ACGT string within distance `d ≤ k` is yielded with `e = d`
      (for `t = []` only when `k = 0`: `min_cost` ignores column 0, so the walk stops after one letter);
    * `editEnvironment_nodup`: no string is yielded twice.
    Core Lean only. -/
namespace Cutadapt.Index
open Cutadapt Cutadapt.Spec

theorem enc_eq : ∀ tj ∈ acgt, ∀ cl ∈ letters, (encT tj == cl.1) = (tj == cl.2) := by decide

theorem letters_acgt : ∀ cl ∈ letters, cl.2 ∈ acgt := by decide

theorem letters_of_acgt : ∀ c ∈ acgt, ∃ cl ∈ letters, cl.2 = c := by decide

theorem length_le_dist {sc : List Op} {a b : Bytes} (h1 : lhs sc = a) (h2 : rhs sc = b) :
    a.length ≤ b.length + cost (· == ·) 1 sc ∧ b.length ≤ a.length + cost (· == ·) 1 sc :=
  h1 ▸ h2 ▸ length_le_cost (· == ·) 1 (Nat.le_refl 1) sc

/-- the value the `for j` loop writes to column `j` (or leaves untouched outside the band) -/
def cellAt (k i : Nat) (code : UInt8) (j : Nat) (tj : UInt8) (diag left up : Cell) : Cell :=
  if inBand k i j then stepCell (if encT tj == code then 0 else 1) diag left up else ⟨sentinel k, 0⟩

/-- the column is named `j` with `j = j0 + idx` to keep index arithmetic out of the way -/
theorem fillRow_spec (k i : Nat) (code : UInt8) (P : Nat → Cell → Prop) :
    ∀ (ts : List UInt8) (j0 : Nat) (left : Cell) (prevs : List Cell),
      prevs.length = ts.length + 1 → P j0 left →
      (∀ idx j, j = j0 + idx → idx < ts.length → ∀ l, P j l →
        P (j + 1) (cellAt k i code (j + 1) (ts.getD idx 0) (prevs.getD idx ⟨0, 0⟩) l (prevs.getD (idx + 1) ⟨0, 0⟩))) →
      (fillRow k i code (j0 + 1) left ts prevs).length = ts.length ∧
      ∀ idx j, j = j0 + idx → idx < ts.length → P (j + 1) ((fillRow k i code (j0 + 1) left ts prevs).getD idx ⟨0, 0⟩) := by
  intro ts
  induction ts with
  | nil => intro j0 left prevs _ _ _; exact ⟨rfl, fun _ _ _ h => absurd h (Nat.not_lt_zero _)⟩
  | cons tj ts ih =>
    intro j0 left prevs hlen hP hstep
    -- (a `match prevs, hlen with | diag :: up :: rest, _` costs four times this whole proof)
    obtain ⟨diag, up, rest, rfl⟩ : ∃ d u r, prevs = d :: u :: r := by
      cases prevs with
      | nil => cases hlen
      | cons d p => cases p with
        | nil => cases ts <;> cases hlen
        | cons u r => exact ⟨d, u, r, rfl⟩
    have h0 := hstep 0 j0 rfl (Nat.zero_lt_succ _) left hP
    obtain ⟨ih1, ih2⟩ := ih (j0 + 1) _ (up :: rest) (Nat.succ.inj hlen) h0 fun idx j hj hidx l hl =>
      hstep (idx + 1) j (by omega) (Nat.succ_lt_succ hidx) l hl
    refine ⟨congrArg (· + 1) ih1, fun idx j hj hidx => ?_⟩
    cases idx with
    | zero => subst hj; exact h0
    | succ idx => exact ih2 idx j (by omega) (Nat.lt_of_succ_lt_succ hidx)

def RowInv (P : Nat → Cell → Prop) (n : Nat) (row : List Cell) : Prop :=
  row.length = n + 1 ∧ ∀ j, j ≤ n → P j (row.getD j ⟨0, 0⟩)

theorem nextRow_inv (k i : Nat) (code : UInt8) (t : Bytes) (prev : List Cell) (P : Nat → Cell → Prop)
    (hprev : prev.length = t.length + 1) (h0 : P 0 ⟨i, 0⟩)
    (hstep : ∀ j, j < t.length → ∀ l, P j l →
      P (j + 1) (cellAt k i code (j + 1) (t.getD j 0) (prev.getD j ⟨0, 0⟩) l (prev.getD (j + 1) ⟨0, 0⟩))) :
    RowInv P t.length (nextRow k i code t prev) := by
  have h := fillRow_spec k i code P t 0 ⟨i, 0⟩ prev hprev h0 fun idx j hj => by
    rw [hj, Nat.zero_add]; exact hstep idx
  refine ⟨congrArg (· + 1) h.1, fun j hj => ?_⟩
  cases j with
  | zero => exact h0
  | succ j => exact h.2 j j (Nat.zero_add j).symm (by omega)

theorem stepCell_cost (mm : Nat) (d l u : Cell) :
    ((stepCell mm d l u).cost = d.cost + mm ∨ (stepCell mm d l u).cost = l.cost + 1 ∨
      (stepCell mm d l u).cost = u.cost + 1) ∧
    (stepCell mm d l u).cost ≤ d.cost + mm ∧ (stepCell mm d l u).cost ≤ l.cost + 1 ∧
    (stepCell mm d l u).cost ≤ u.cost + 1 := by
  unfold stepCell
  simp only
  split
  · exact ⟨.inl rfl, by simp only; omega⟩
  · split
    · exact ⟨.inr (.inl rfl), by simp only; omega⟩
    · exact ⟨.inr (.inr rfl), by simp only; omega⟩

/-- upper bound: a finite cell value is the cost of a script -/
def UpCell (t : Bytes) (k : Nat) (s : Bytes) (j : Nat) (c : Cell) : Prop :=
  c.cost < sentinel k → ∃ sc, lhs sc = t.take j ∧ rhs sc = s ∧ cost (· == ·) 1 sc = c.cost

theorem take_succ_getD (t : Bytes) (j : Nat) (hj : j < t.length) : t.take (j + 1) = t.take j ++ [t.getD j 0] := by
  rw [List.take_succ_eq_append_getElem hj, List.getElem_eq_getD]

theorem upCell_snoc {t : Bytes} {k : Nat} {s s' : Bytes} {j j' : Nat} {c c' : Cell} (o : Op) (h : UpCell t k s j c)
    (hl : t.take j ++ o.lhs = t.take j') (hr : s ++ o.rhs = s') (hc : c'.cost = c.cost + o.cost (· == ·) 1) :
    UpCell t k s' j' c' := by
  intro hlt
  obtain ⟨sc, h1, h2, h3⟩ := h (by omega)
  exact ⟨sc ++ [o], by rw [lhs_append, h1, ← hl]; simp, by rw [rhs_append, h2, ← hr]; simp,
    by rw [cost_append, cost_single, h3, hc]⟩

theorem up_step (t : Bytes) (k : Nat) (s : Bytes) (cl : UInt8 × UInt8) (i j : Nat) (ht : ∀ c ∈ t, c ∈ acgt)
    (hcl : cl ∈ letters) (hj : j < t.length) (diag left up : Cell)
    (hd : UpCell t k s j diag) (hu : UpCell t k s (j + 1) up) (hl : UpCell t k (s ++ [cl.2]) j left) :
    UpCell t k (s ++ [cl.2]) (j + 1) (cellAt k i cl.1 (j + 1) (t.getD j 0) diag left up) := by
  have htj : t.getD j 0 ∈ acgt := by
    rw [← List.getElem_eq_getD (h := hj)]; exact ht _ (List.getElem_mem hj)
  unfold cellAt
  by_cases hb : inBand k i (j + 1) = true
  · rw [if_pos hb, enc_eq _ htj cl hcl]
    rcases (stepCell_cost (if (t.getD j 0 == cl.2) = true then 0 else 1) diag left up).1 with hc | hc | hc
    · exact upCell_snoc (.sub (t.getD j 0) cl.2) hd (take_succ_getD t j hj).symm rfl hc
    · exact upCell_snoc (.del (t.getD j 0)) hl (take_succ_getD t j hj).symm (List.append_nil _) hc
    · exact upCell_snoc (.ins cl.2) hu (List.append_nil _) rfl hc
  · rw [if_neg hb]
    intro hlt
    simp at hlt

/-- lower bound: no script within `k` is cheaper than the cell (Ukkonen's band) -/
def LowCell (t : Bytes) (k : Nat) (s : Bytes) (j : Nat) (c : Cell) : Prop :=
  ∀ sc, lhs sc = t.take j → rhs sc = s → cost (· == ·) 1 sc ≤ k → c.cost ≤ cost (· == ·) 1 sc

theorem low_step (t : Bytes) (k : Nat) (s : Bytes) (cl : UInt8 × UInt8) (j : Nat) (ht : ∀ c ∈ t, c ∈ acgt)
    (hcl : cl ∈ letters) (hj : j < t.length) (diag left up : Cell)
    (hd : LowCell t k s j diag) (hu : LowCell t k s (j + 1) up) (hl : LowCell t k (s ++ [cl.2]) j left) :
    LowCell t k (s ++ [cl.2]) (j + 1) (cellAt k (s.length + 1) cl.1 (j + 1) (t.getD j 0) diag left up) := by
  have htj : t.getD j 0 ∈ acgt := by
    rw [← List.getElem_eq_getD (h := hj)]; exact ht _ (List.getElem_mem hj)
  intro sc h1 h2 h3
  have hb : inBand k (s.length + 1) (j + 1) = true := by
    have := length_le_dist h1 h2
    simp only [List.length_take, List.length_append, List.length_cons, List.length_nil] at this
    simp only [inBand, Bool.and_eq_true, decide_eq_true_eq]
    omega
  unfold cellAt
  rw [if_pos hb, enc_eq _ htj cl hcl]
  have hst := (stepCell_cost (if (t.getD j 0 == cl.2) = true then 0 else 1) diag left up).2
  rw [take_succ_getD t j hj] at h1
  rcases List.eq_nil_or_concat sc with rfl | ⟨init, o, rfl⟩
  · simp at h1
  · simp only [List.concat_eq_append, lhs_append, rhs_append, cost_append, cost_single, lhs_cons, rhs_cons, lhs_nil,
      rhs_nil, List.append_nil] at h1 h2 h3 ⊢
    cases o with
    | sub r q =>
      simp only [Op.lhs, Op.rhs, Op.cost] at h1 h2 h3 ⊢
      obtain ⟨a1, a2⟩ := List.append_inj' h1 rfl
      obtain ⟨b1, b2⟩ := List.append_inj' h2 rfl
      simp only [List.cons.injEq, and_true] at a2 b2
      subst a2 b2
      have := hd init a1 b1 (by omega)
      omega
    | del r =>
      simp only [Op.lhs, Op.rhs, Op.cost, List.append_nil] at h1 h2 h3 ⊢
      obtain ⟨a1, a2⟩ := List.append_inj' h1 rfl
      have := hl init a1 h2 (by omega)
      omega
    | ins q =>
      simp only [Op.lhs, Op.rhs, Op.cost, List.append_nil] at h1 h2 h3 ⊢
      obtain ⟨b1, b2⟩ := List.append_inj' h2 rfl
      have := hu init (by rw [h1, take_succ_getD t j hj]) b1 (by omega)
      omega

def Exact (t : Bytes) (k : Nat) (s : Bytes) (j : Nat) (c : Cell) : Prop := UpCell t k s j c ∧ LowCell t k s j c

theorem row0_getD (n j : Nat) (hj : j ≤ n) : (row0 n).getD j ⟨0, 0⟩ = ⟨j, 0⟩ := by
  simp [row0, List.getD_eq_getElem?_getD, Nat.lt_succ_of_le hj]

theorem exact_row0 (t : Bytes) (k : Nat) : RowInv (Exact t k []) t.length (row0 t.length) := by
  refine ⟨by simp [row0], fun j hj => ?_⟩
  rw [row0_getD _ _ hj]
  constructor
  · intro _
    obtain ⟨h1, h2, h3⟩ := del_script (· == ·) 1 (t.take j)
    exact ⟨_, h1, h2, by rw [h3]; simp; omega⟩
  · intro sc h1 h2 _
    have := length_le_dist h1 h2
    simp only [List.length_take, List.length_nil] at this
    simp only
    omega

theorem exact_nextRow (t : Bytes) (k : Nat) (ht : ∀ c ∈ t, c ∈ acgt) (s : Bytes) (row : List Cell) (cl : UInt8 × UInt8)
    (hcl : cl ∈ letters) (h : RowInv (Exact t k s) t.length row) :
    RowInv (Exact t k (s ++ [cl.2])) t.length (nextRow k (s.length + 1) cl.1 t row) := by
  apply nextRow_inv _ _ _ _ _ _ h.1
  · constructor
    · intro _
      obtain ⟨h1, h2, h3⟩ := ins_script (· == ·) 1 (s ++ [cl.2])
      exact ⟨_, by rw [h1]; simp, h2, by rw [h3]; simp⟩
    · intro sc h1 h2 _
      have := length_le_dist h1 h2
      simp only [List.length_take, List.length_append, List.length_cons, List.length_nil] at this
      simp only
      omega
  · intro j hj l hl
    have hd := h.2 j (by omega)
    have hu := h.2 (j + 1) (by omega)
    exact ⟨up_step t k s cl _ j ht hcl hj _ _ _ hd.1 hu.1 hl.1, low_step t k s cl j ht hcl hj _ _ _ hd.2 hu.2 hl.2⟩

def envHere (t : List UInt8) (k : Nat) (sRev : Bytes) (row : List Cell) : List (Bytes × Nat × Nat) :=
  if (row.getD t.length ⟨0, 0⟩).cost ≤ k then
    [(sRev.reverse, (row.getD t.length ⟨0, 0⟩).cost, (row.getD t.length ⟨0, 0⟩).nmatch)] else []

theorem mem_envHere {t : List UInt8} {k : Nat} {sRev : Bytes} {row : List Cell} {x : Bytes × Nat × Nat} :
    x ∈ envHere t k sRev row ↔ (row.getD t.length ⟨0, 0⟩).cost ≤ k ∧
      x = (sRev.reverse, (row.getD t.length ⟨0, 0⟩).cost, (row.getD t.length ⟨0, 0⟩).nmatch) := by
  unfold envHere
  split
  · rw [List.mem_singleton]; exact ⟨fun h => ⟨‹_›, h⟩, fun h => h.2⟩
  · exact ⟨nofun, fun h => absurd h.1 ‹_›⟩

theorem envNode_zero (t : List UInt8) (k i : Nat) (sRev : Bytes) (row : List Cell) (minCost : Nat) :
    envNode t k 0 i sRev row minCost = envHere t k sRev row := rfl

theorem envNode_succ (t : List UInt8) (k fuel i : Nat) (sRev : Bytes) (row : List Cell) (minCost : Nat) :
    envNode t k (fuel + 1) i sRev row minCost = envHere t k sRev row ++
      if minCost ≤ k then letters.flatMap fun cl => envNode t k fuel (i + 1) (cl.2 :: sRev)
        (nextRow k (i + 1) cl.1 t row) (rowMin k (i + 1) (nextRow k (i + 1) cl.1 t row)) else [] := by
  rw [envNode]
  split <;> simp [envHere]

theorem mem_envNode_succ {t : List UInt8} {k fuel i : Nat} {sRev : Bytes} {row : List Cell} {minCost : Nat}
    {x : Bytes × Nat × Nat} :
    x ∈ envNode t k (fuel + 1) i sRev row minCost ↔ x ∈ envHere t k sRev row ∨
      minCost ≤ k ∧ ∃ cl ∈ letters, x ∈ envNode t k fuel (i + 1) (cl.2 :: sRev)
        (nextRow k (i + 1) cl.1 t row) (rowMin k (i + 1) (nextRow k (i + 1) cl.1 t row)) := by
  rw [envNode_succ, List.mem_append]
  split <;> simp [*]

theorem envNode_ind (t : Bytes) (k : Nat) (R : Nat → Bytes → List Cell → Prop)
    (hnext : ∀ i s row cl, cl ∈ letters → R i s row → R (i + 1) (s ++ [cl.2]) (nextRow k (i + 1) cl.1 t row)) :
    ∀ fuel i sRev row minCost, R i sRev.reverse row →
      ∀ x ∈ envNode t k fuel i sRev row minCost,
        ∃ i' s' row', R i' s' row' ∧ (row'.getD t.length ⟨0, 0⟩).cost ≤ k ∧
          x = (s', (row'.getD t.length ⟨0, 0⟩).cost, (row'.getD t.length ⟨0, 0⟩).nmatch) := by
  intro fuel
  induction fuel with
  | zero =>
    intro i sRev row minCost hR x hx
    rw [envNode_zero] at hx
    obtain ⟨hle, hx⟩ := mem_envHere.mp hx
    exact ⟨i, _, row, hR, hle, hx⟩
  | succ fuel ih =>
    intro i sRev row minCost hR x hx
    rcases mem_envNode_succ.mp hx with hx | ⟨_, cl, hcl, hx⟩
    · obtain ⟨hle, hx⟩ := mem_envHere.mp hx
      exact ⟨i, _, row, hR, hle, hx⟩
    · exact ih (i + 1) (cl.2 :: sRev) _ _ (by simpa using hnext _ _ _ cl hcl hR) x hx

theorem editEnvironment_sound (t : Bytes) (k : Nat) (ht : ∀ c ∈ t, c ∈ acgt) (s : Bytes) (e m : Nat)
    (h : (s, e, m) ∈ editEnvironment t k) :
    (∀ c ∈ s, c ∈ acgt) ∧ e ≤ k ∧ Spec.IsDist (· == ·) 1 t s e := by
  have hk : k < sentinel k := by unfold sentinel; omega
  obtain ⟨_, s', row', ⟨-, hs, hrow⟩, hle, hx⟩ := envNode_ind t k
    (fun i s row => i = s.length ∧ (∀ c ∈ s, c ∈ acgt) ∧ RowInv (Exact t k s) t.length row)
    (by
      rintro _ s row cl hcl ⟨rfl, h1, h2⟩
      refine ⟨by simp, ?_, exact_nextRow t k ht s row cl hcl h2⟩
      intro c hc
      rcases List.mem_append.mp hc with hc | hc
      · exact h1 c hc
      · rw [List.mem_singleton.mp hc]; exact letters_acgt cl hcl)
    (t.length + k) 0 [] (row0 t.length) 0 ⟨rfl, by simp, exact_row0 t k⟩ _ h
  cases hx
  obtain ⟨hup, hlow⟩ := hrow.2 t.length (Nat.le_refl _)
  simp only [UpCell, LowCell, List.take_length] at hup hlow
  refine ⟨hs, hle, hup (by omega), fun sc h1 h2 => ?_⟩
  by_cases hc : Spec.cost (· == ·) 1 sc ≤ k
  · exact hlow sc h1 h2 hc
  · omega

theorem envNode_prefix (t : Bytes) (k : Nat) (fuel i : Nat) (sRev : Bytes) (row : List Cell) (minCost : Nat) :
    ∀ x ∈ envNode t k fuel i sRev row minCost, sRev.reverse <+: x.1 := by
  intro x hx
  obtain ⟨_, s', _, hp, _, rfl⟩ := envNode_ind t k (fun _ s _ => sRev.reverse <+: s)
    (fun _ _ _ _ _ h => h.trans (List.prefix_append _ _)) fuel i sRev row minCost (List.prefix_refl _) x hx
  exact hp

theorem envNode_pairwise (t : Bytes) (k : Nat) : ∀ fuel i sRev row minCost,
    (envNode t k fuel i sRev row minCost).Pairwise (fun x y => x.1 ≠ y.1) := by
  have hhere : ∀ (sRev : Bytes) (row : List Cell), (envHere t k sRev row).Pairwise (fun x y => x.1 ≠ y.1) := by
    intro sRev row
    unfold envHere
    split <;> simp
  intro fuel
  induction fuel with
  | zero =>
    intro i sRev row minCost
    rw [envNode_zero]
    exact hhere sRev row
  | succ fuel ih =>
    intro i sRev row minCost
    rw [envNode_succ, List.pairwise_append]
    refine ⟨hhere sRev row, ?_, ?_⟩
    · split
      · rw [List.pairwise_flatMap]
        refine ⟨fun cl _ => ih _ _ _ _, ?_⟩
        have hl : letters.Pairwise (fun a b => a.2 ≠ b.2) := by decide
        refine hl.imp ?_
        intro a b hab x hx y hy hxy
        -- both strings continue the same prefix, with different letters
        obtain ⟨r1, h1⟩ := envNode_prefix t k _ _ _ _ _ x hx
        obtain ⟨r2, h2⟩ := envNode_prefix t k _ _ _ _ _ y hy
        rw [List.reverse_cons] at h1 h2
        rw [hxy, ← h2, List.append_assoc, List.append_assoc] at h1
        have := List.append_cancel_left h1
        simp only [List.cons_append, List.nil_append, List.cons.injEq] at this
        exact hab this.1
      · exact List.Pairwise.nil
    · intro x hx y hy hxy
      -- a child's strings are longer than the node's own
      split at hy
      · obtain ⟨cl, _, hy⟩ := List.mem_flatMap.mp hy
        have := (envNode_prefix t k _ _ _ _ _ y hy).length_le
        rw [← hxy, (mem_envHere.mp hx).2] at this
        simp only [List.length_reverse, List.length_cons] at this
        omega
      · cases hy

theorem editEnvironment_nodup (t : Bytes) (k : Nat) : ((editEnvironment t k).map (·.1)).Nodup := by
  unfold List.Nodup
  rw [List.pairwise_map]
  exact envNode_pairwise t k _ _ _ _ _

theorem rowMinFrom_le (k i : Nat) : ∀ (cs : List Cell) (j m : Nat),
    rowMinFrom k i j cs m ≤ m ∧
    ∀ idx, idx < cs.length → inBand k i (j + idx) = true → rowMinFrom k i j cs m ≤ (cs.getD idx ⟨0, 0⟩).cost := by
  intro cs
  induction cs with
  | nil => intro j m; simp [rowMinFrom]
  | cons c cs ih =>
    intro j m
    rw [rowMinFrom]
    have ih' := ih (j + 1) (if inBand k i j then min m c.cost else m)
    have hm' : (if inBand k i j then min m c.cost else m) ≤ m := by split <;> omega
    refine ⟨?_, ?_⟩
    · have := ih'.1
      omega
    · intro idx hidx hb
      cases idx with
      | zero =>
        have := ih'.1
        simp only [Nat.add_zero] at hb
        have hm2 : (if inBand k i j then min m c.cost else m) ≤ c.cost := by rw [if_pos hb]; omega
        simp only [List.getD_cons_zero]
        omega
      | succ idx =>
        simp only [List.getD_cons_succ]
        exact ih'.2 idx (by simpa using hidx) (by rw [Nat.add_right_comm, Nat.add_assoc]; exact hb)

theorem rowMin_le (k i : Nat) (row : List Cell) (j : Nat) (h1 : 1 ≤ j) (hj : j < row.length)
    (hb : inBand k i j = true) : rowMin k i row ≤ (row.getD j ⟨0, 0⟩).cost := by
  unfold rowMin
  cases row with
  | nil => simp at hj
  | cons c cs =>
    obtain ⟨j, rfl⟩ : ∃ j', j = j' + 1 := ⟨j - 1, by omega⟩
    simp only [List.tail_cons, List.getD_cons_succ]
    exact (rowMinFrom_le k i cs 1 _).2 j (by simpa using hj) (by rw [Nat.add_comm]; exact hb)

/-- if some extension of `p` is within `k` of `t`, the walk does not prune below `p` -/
theorem prune (t : Bytes) (k : Nat) (hne : t ≠ [] ∨ k = 0) (p : Bytes) (row : List Cell) (hp : 1 ≤ p.length)
    (hrow : RowInv (Exact t k p) t.length row) (ext : Bytes) (sc : List Op)
    (h1 : lhs sc = t) (h2 : rhs sc = p ++ ext) (h3 : cost (· == ·) 1 sc ≤ k) : rowMin k p.length row ≤ k := by
  -- enough: a script within `k` from a non-empty prefix of `t` to `p`: its column is in the band and bounds `min_cost`
  suffices ∃ j sc', 1 ≤ j ∧ j ≤ t.length ∧ lhs sc' = t.take j ∧ rhs sc' = p ∧ cost (· == ·) 1 sc' ≤ k by
    obtain ⟨j, sc', hj1, hjt, l1, l2, l3⟩ := this
    have hge := length_le_dist l1 l2
    rw [List.length_take, Nat.min_eq_left hjt] at hge
    have hb : inBand k p.length j = true := by
      simp only [inBand, Bool.and_eq_true, decide_eq_true_eq]; omega
    exact Nat.le_trans (rowMin_le k p.length row j hj1 (by rw [hrow.1]; omega) hb)
      (Nat.le_trans ((hrow.2 j hjt).2 sc' l1 l2 l3) l3)
  obtain ⟨sc1, sc2, rfl, r1, r2⟩ := split_rhs sc p ext h2
  simp only [lhs_append, cost_append] at h1 h3
  by_cases hj : 1 ≤ (lhs sc1).length
  · exact ⟨_, sc1, hj, by rw [← h1]; simp, by rw [← h1]; simp, r1, by omega⟩
  · -- `min_cost` does not look at column 0: take column 1, through the script that aligns the first characters
    have hge := length_le_dist rfl r1
    obtain ⟨t0, t', rfl⟩ := List.exists_cons_of_ne_nil (hne.resolve_right (by omega))
    obtain ⟨p0, p', rfl⟩ := List.exists_cons_of_ne_nil (List.ne_nil_of_length_pos hp)
    obtain ⟨i1, i2, i3⟩ := ins_script (· == ·) 1 p'
    refine ⟨1, Op.sub t0 p0 :: p'.map Op.ins, Nat.le_refl 1, by simp, by simp [Op.lhs, i1], by simp [Op.rhs, i2], ?_⟩
    simp only [cost_cons, Op.cost, i3]
    simp only [List.length_cons] at hge
    split <;> omega

theorem envNode_complete (t : Bytes) (k : Nat) (ht : ∀ c ∈ t, c ∈ acgt) (hne : t ≠ [] ∨ k = 0) :
    ∀ (ext : Bytes) (fuel i : Nat) (sRev : Bytes) (row : List Cell) (minCost : Nat),
      i = sRev.length → fuel + i = t.length + k → RowInv (Exact t k sRev.reverse) t.length row →
      (i = 0 → minCost ≤ k) → (1 ≤ i → minCost = rowMin k i row) →
      (∀ c ∈ ext, c ∈ acgt) → ∀ d, Spec.IsDist (· == ·) 1 t (sRev.reverse ++ ext) d → d ≤ k →
      ∃ m, (sRev.reverse ++ ext, d, m) ∈ envNode t k fuel i sRev row minCost := by
  have hk : k < sentinel k := by unfold sentinel; omega
  intro ext
  induction ext with
  | nil =>
    intro fuel i sRev row minCost hi hfuel hrow _ _ _ d hd hdk
    obtain ⟨⟨sc, s1, s2, s3⟩, hmin⟩ := hd
    simp only [List.append_nil] at s2 hmin ⊢
    obtain ⟨hup, hlow⟩ := hrow.2 t.length (Nat.le_refl _)
    simp only [UpCell, LowCell, List.take_length] at hup hlow
    -- the cell is at most `d` (lower-bound half), hence the cost of a script (upper-bound half), hence at least `d`
    have e1 : (row.getD t.length ⟨0, 0⟩).cost ≤ d := s3 ▸ hlow sc s1 s2 (s3 ▸ hdk)
    obtain ⟨sc', u1, u2, u3⟩ := hup (Nat.lt_of_le_of_lt (Nat.le_trans e1 hdk) hk)
    obtain rfl : (row.getD t.length ⟨0, 0⟩).cost = d := Nat.le_antisymm e1 (u3 ▸ hmin sc' u1 u2)
    have hx := (mem_envHere (sRev := sRev)).mpr ⟨hdk, rfl⟩
    cases fuel with
    | zero => exact ⟨_, hx⟩
    | succ fuel => exact ⟨_, mem_envNode_succ.mpr (.inl hx)⟩
  | cons c ext ih =>
    intro fuel i sRev row minCost hi hfuel hrow hmc0 hmc1 hext d hd hdk
    obtain ⟨sc, s1, s2, s3⟩ := hd.1
    have hge := length_le_dist s1 s2
    simp only [List.length_append, List.length_reverse, List.length_cons] at hge
    obtain ⟨fuel, rfl⟩ : ∃ f, fuel = f + 1 := ⟨fuel - 1, by omega⟩
    have hmc : minCost ≤ k := by
      by_cases h0 : i = 0
      · exact hmc0 h0
      · have hpos := Nat.pos_of_ne_zero h0
        rw [hmc1 hpos, hi, ← List.length_reverse]
        exact prune t k hne sRev.reverse row (by rwa [List.length_reverse, ← hi]) hrow (c :: ext) sc s1 s2 (s3 ▸ hdk)
    obtain ⟨cl, hcl, rfl⟩ := letters_of_acgt c (hext c List.mem_cons_self)
    have hrow' := exact_nextRow t k ht _ row cl hcl hrow
    rw [List.length_reverse, ← hi] at hrow'
    have hrev : (cl.2 :: sRev).reverse = sRev.reverse ++ [cl.2] := List.reverse_cons
    obtain ⟨m, hm⟩ := ih fuel (i + 1) (cl.2 :: sRev) _ (rowMin k (i + 1) (nextRow k (i + 1) cl.1 t row))
      (by rw [List.length_cons, hi]) (by omega) (by rw [hrev]; exact hrow') (by omega) (fun _ => rfl)
      (fun c hc => hext c (List.mem_cons_of_mem _ hc)) d (by rw [hrev, List.append_assoc]; exact hd) hdk
    rw [hrev, List.append_assoc] at hm
    exact ⟨m, mem_envNode_succ.mpr (.inr ⟨hmc, cl, hcl, hm⟩)⟩

theorem editEnvironment_complete (t : Bytes) (k : Nat) (ht : ∀ c ∈ t, c ∈ acgt) (hne : t ≠ [] ∨ k = 0) (s : Bytes)
    (d : Nat) (hs : ∀ c ∈ s, c ∈ acgt) (hd : Spec.IsDist (· == ·) 1 t s d) (hk : d ≤ k) :
    ∃ m, (s, d, m) ∈ editEnvironment t k := by
  have := envNode_complete t k ht hne s (t.length + k) 0 [] (row0 t.length) 0 rfl rfl (exact_row0 t k)
    (fun _ => Nat.zero_le _) (fun h => absurd h (by omega)) hs d (by simpa using hd) hk
  simpa [editEnvironment] using this

example : (editEnvironment [65, 67] 1).length = 19 := by decide +kernel
example : editEnvironment [65] 0 = [([65], 0, 1)] := by decide
example : editEnvironment [65, 67] 1 =
    [([65], 1, 1), ([65, 65], 1, 1), ([65, 65, 67], 1, 2), ([65, 67], 0, 2), ([65, 67, 65], 1, 2), ([65, 67, 67], 1, 2),
     ([65, 67, 71], 1, 2), ([65, 67, 84], 1, 2), ([65, 71], 1, 1), ([65, 71, 67], 1, 2), ([65, 84], 1, 1),
     ([65, 84, 67], 1, 2), ([67], 1, 1), ([67, 65, 67], 1, 2), ([67, 67], 1, 1), ([71, 65, 67], 1, 2), ([71, 67], 1, 1),
     ([84, 65, 67], 1, 2), ([84, 67], 1, 1)] := by decide +kernel
example : (editEnvironment [65, 67, 71] 1).length = 26 := by decide +kernel
example : (editEnvironment [65, 67, 71] 2).length = 258 := by decide +kernel
example : ([65, 71], 1, 2) ∈ editEnvironment [65, 67, 71] 1 := by decide
/-- "AG" is at edit distance exactly 1 from "ACG" -/
example : Spec.IsDist (· == ·) 1 [65, 67, 71] [65, 71] 1 :=
  (editEnvironment_sound [65, 67, 71] 1 (by decide) [65, 71] 1 2 (by decide)).2.2
/-- conversely every ACGT string at distance 1 from "ACG" is listed with that distance -/
example (s : Bytes) (hs : ∀ c ∈ s, c ∈ acgt) (hd : Spec.IsDist (· == ·) 1 [65, 67, 71] s 1) :
    ∃ m, (s, 1, m) ∈ editEnvironment [65, 67, 71] 1 :=
  editEnvironment_complete [65, 67, 71] 1 (by decide) (Or.inl (by decide)) s 1 hs hd (Nat.le_refl _)
/-- the quirk behind `hne`: for the empty adapter only strings of length ≤ 1 are listed, whatever `k` -/
example : (editEnvironment [] 2).map (·.1) = [[], [65], [67], [71], [84]] := by decide

end Cutadapt.Index
