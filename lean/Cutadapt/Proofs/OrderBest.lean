import Cutadapt.Modifiers
/-! `MultipleAdapters.match_to` (`bestMatch`) is an arg-max; the `--times` loop (`rounds`): helper lemmas for C09. -/
namespace Cutadapt
open Cutadapt.Adapters

/-- candidate `(m, k)` (match `m` of the adapter at position `k`) is at least as good as `(m', j)`:
    higher score, then fewer errors, then earlier adapter -/
def Dominates (m : AnyMatch) (k : Nat) (m' : AnyMatch) (j : Nat) : Prop :=
  m'.score < m.score ∨ (m'.score = m.score ∧ m.errors < m'.errors) ∨ (m'.score = m.score ∧ m'.errors = m.errors ∧ k ≤ j)

theorem Dominates.refl (m : AnyMatch) (k : Nat) : Dominates m k m k := by
  unfold Dominates; omega

theorem Dominates.trans {a b c : AnyMatch} {i j k : Nat} (h1 : Dominates a i b j) (h2 : Dominates b j c k) : Dominates a i c k := by
  unfold Dominates at *; omega

theorem dominates_of_better {m b : AnyMatch} (h : better m b = true) (i kb : Nat) : Dominates m i b kb := by
  unfold better at h
  unfold Dominates
  simp at h
  omega

theorem dominates_of_not_better {m b : AnyMatch} (h : ¬ better m b = true) {i kb : Nat} (hk : kb ≤ i) : Dominates b kb m i := by
  unfold better at h
  unfold Dominates
  simp at h
  omega

theorem bestMatchGo_none (s : Bytes) : ∀ (as : List Matchable) (i : Nat) (best : Option AnyMatch),
    bestMatchGo s as i best = none ↔ best = none ∧ ∀ p ∈ as.zipIdx i, p.1.matchTo p.2 s = none
  | [], i, best => by simp [bestMatchGo]
  | a :: as, i, best => by
    rw [bestMatchGo, List.zipIdx_cons, List.forall_mem_cons]
    cases hm : a.matchTo i s with
    | none => simpa using bestMatchGo_none s as (i+1) best
    | some m0 =>
      have ne : ∀ x, bestMatchGo s as (i+1) (some x) ≠ none := fun x h => nomatch ((bestMatchGo_none s as (i+1) _).1 h).1
      cases best with
      | none => simp [ne]
      | some b => dsimp only; split <;> simp [ne]

/-- `m`, found at position `k`, is the running best `bk` itself (carried with the position of the adapter that produced it) or
    the match of one of the candidates `cs`, and it is at least as good as the running best and as every match of a candidate -/
structure BestAt (s : Bytes) (bk : Option (AnyMatch × Nat)) (cs : List (Matchable × Nat)) (m : AnyMatch) (k : Nat) : Prop where
  source : bk = some (m, k) ∨ ∃ a, (a, k) ∈ cs ∧ a.matchTo k s = some m
  beatsBest : ∀ p ∈ bk, Dominates m k p.1 p.2
  beatsAll : ∀ p ∈ cs, ∀ m', p.1.matchTo p.2 s = some m' → Dominates m k m' p.2

/-- invariant of the loop of `MultipleAdapters.match_to` -/
theorem bestMatchGo_some (s : Bytes) : ∀ (as : List Matchable) (i : Nat) (bk : Option (AnyMatch × Nat)) (m : AnyMatch),
    (∀ p ∈ bk, p.2 ≤ i) → bestMatchGo s as i (bk.map (·.1)) = some m → ∃ k, BestAt s bk (as.zipIdx i) m k
  | [], i, bk, m, _, h => by
    cases bk with
    | none => cases h
    | some p =>
      obtain ⟨b, kb⟩ := p
      cases h
      refine ⟨kb, .inl rfl, fun p hp => ?_, fun p hp => nomatch hp⟩
      cases hp
      exact Dominates.refl _ _
  | a :: as, i, bk, m, hk, h => by
    rw [List.zipIdx_cons]
    -- the loop goes on with running best `nb`, found at `nk`: the old one or the match of `a`
    have step : ∀ nb nk, nk ≤ i → (bk = some (nb, nk) ∨ (a.matchTo i s = some nb ∧ nk = i)) →
        (∀ p ∈ bk, Dominates nb nk p.1 p.2) → (∀ m', a.matchTo i s = some m' → Dominates nb nk m' i) →
        bestMatchGo s as (i+1) (some nb) = some m → ∃ k, BestAt s bk ((a, i) :: as.zipIdx (i+1)) m k := by
      intro nb nk hnk hsrc hdb hdm hr
      obtain ⟨k, rest⟩ := bestMatchGo_some s as (i+1) (some (nb, nk)) m
        (fun p hp => by cases hp; exact Nat.le_succ_of_le hnk) hr
      have hmn : Dominates m k nb nk := rest.beatsBest _ rfl
      refine ⟨k, ?_, fun p hp => hmn.trans (hdb p hp), ?_⟩
      · rcases rest.source with hs | ⟨a', ha', hm'⟩
        · cases hs
          rcases hsrc with h1 | ⟨h1, rfl⟩
          · exact .inl h1
          · exact .inr ⟨a, List.mem_cons_self, h1⟩
        · exact .inr ⟨a', List.mem_cons_of_mem _ ha', hm'⟩
      · intro p hp m' hm'
        rcases List.mem_cons.1 hp with rfl | hp
        · exact hmn.trans (hdm m' hm')
        · exact rest.beatsAll p hp m' hm'
    rw [bestMatchGo] at h
    cases hm : a.matchTo i s with
    | none =>
      rw [hm] at h step
      obtain ⟨k, rest⟩ := bestMatchGo_some s as (i+1) bk m (fun p hp => Nat.le_succ_of_le (hk p hp)) h
      refine ⟨k, rest.source.imp_right fun ⟨a', ha', hm'⟩ => ⟨a', List.mem_cons_of_mem _ ha', hm'⟩, rest.beatsBest, ?_⟩
      intro p hp m' hm'
      rcases List.mem_cons.1 hp with rfl | hp
      · rw [hm] at hm'
        cases hm'
      · exact rest.beatsAll p hp m' hm'
    | some m0 =>
      rw [hm] at h step
      have hself : ∀ m', some m0 = some m' → Dominates m0 i m' i := fun m' e => by cases e; exact Dominates.refl _ _
      cases bk with
      | none => exact step m0 i (Nat.le_refl _) (.inr ⟨rfl, rfl⟩) (fun p hp => nomatch hp) hself h
      | some bkb =>
        obtain ⟨b, kb⟩ := bkb
        have hkb : kb ≤ i := hk _ rfl
        simp only [Option.map_some] at h
        by_cases hbt : better m0 b = true
        · rw [if_pos hbt] at h
          exact step m0 i (Nat.le_refl _) (.inr ⟨rfl, rfl⟩) (fun p hp => by cases hp; exact dominates_of_better hbt _ _) hself h
        · rw [if_neg hbt] at h
          exact step b kb hkb (.inl rfl) (fun p hp => by cases hp; exact Dominates.refl _ _)
            (fun m' e => by cases e; exact dominates_of_not_better hbt hkb) h

theorem bestMatch_singleton (a : Matchable) (s : Bytes) : bestMatch [a] s = a.matchTo 0 s := by
  unfold bestMatch bestMatchGo
  cases a.matchTo 0 s <;> simp [bestMatchGo]

theorem rounds_acc (ads : List Matchable) : ∀ (t : Nat) (rd : Read) (acc : List AnyMatch),
    rounds ads t rd acc = ((rounds ads t rd []).1, acc.reverse ++ (rounds ads t rd []).2)
  | 0, rd, acc => by simp [rounds]
  | t+1, rd, acc => by
    unfold rounds
    cases bestMatch ads rd.seq with
    | none => simp
    | some m =>
      simp only []
      rw [rounds_acc ads t _ (m :: acc), rounds_acc ads t _ [m]]
      simp

theorem rounds_succ (ads : List Matchable) (t : Nat) (rd : Read) :
    rounds ads (t+1) rd [] =
      match bestMatch ads rd.seq with
      | none => (rd, [])
      | some m => ((rounds ads t (m.trimmed rd) []).1, m :: (rounds ads t (m.trimmed rd) []).2) := by
  conv => lhs; unfold rounds
  cases bestMatch ads rd.seq with
  | none => simp
  | some m => simp only []; rw [rounds_acc]; simp

/-- the read after the first `i` rounds -/
def readAfter (read : Read) (ms : List AnyMatch) (i : Nat) : Read := (ms.take i).foldl (fun r m => m.trimmed r) read

theorem readAfter_zero (read : Read) (ms : List AnyMatch) : readAfter read ms 0 = read := by simp [readAfter]
theorem readAfter_cons_succ (read : Read) (m : AnyMatch) (ms : List AnyMatch) (i : Nat) :
    readAfter read (m :: ms) (i+1) = readAfter (m.trimmed read) ms i := by simp [readAfter]
theorem readAfter_succ (read : Read) (ms : List AnyMatch) (i : Nat) (h : i < ms.length) :
    readAfter read ms (i+1) = ms[i].trimmed (readAfter read ms i) := by
  unfold readAfter
  rw [List.take_succ_eq_append_getElem h, List.foldl_append]; simp

theorem rounds_spec (ads : List Matchable) : ∀ (t : Nat) (read : Read),
    let ms := (rounds ads t read []).2
    let tr := (rounds ads t read []).1
    ms.length ≤ t ∧
    (∀ i (h : i < ms.length), bestMatch ads (readAfter read ms i).seq = some ms[i]) ∧
    tr = readAfter read ms ms.length ∧
    (ms.length < t → bestMatch ads tr.seq = none)
  | 0, read => by simp [rounds, readAfter]
  | t+1, read => by
    rw [rounds_succ]
    cases hb : bestMatch ads read.seq with
    | none => simp [readAfter, hb]
    | some m =>
      obtain ⟨h1, h2, h3, h4⟩ := rounds_spec ads t (m.trimmed read)
      simp only [] at h1 h2 h3 h4 ⊢
      refine ⟨by simp; omega, ?_, ?_, ?_⟩
      · intro i hi
        cases i with
        | zero => simp [readAfter_zero, hb]
        | succ i =>
          rw [readAfter_cons_succ]
          simp only [List.getElem_cons_succ]
          exact h2 i (by simpa using hi)
      · rw [List.length_cons, readAfter_cons_succ]; exact h3
      · intro hlt
        exact h4 (by simpa using hlt)

end Cutadapt
