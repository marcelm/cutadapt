import Cutadapt.Stats
/-! Counter tables (`incr`, `getCount` of `Stats.lean`: a Python `dict` of counts as an association list in insertion order):
    what `incr`, and a fold of `incr`, does to one count, to the keys and to the sum of all counts. -/
namespace Cutadapt
variable {κ : Type} [BEq κ]

theorem getCount_cons (k k' : κ) (v : Nat) (l : List (κ × Nat)) :
    getCount k ((k', v) :: l) = if k' == k then v else getCount k l := by
  simp only [getCount, List.find?_cons]
  cases k' == k <;> rfl

theorem sum_incr (k : κ) (n : Nat) (l : List (κ × Nat)) : ((incr k n l).map (·.2)).sum = (l.map (·.2)).sum + n := by
  induction l with
  | nil => simp [incr]
  | cons p rest ih =>
    simp only [incr]
    split
    · simp only [List.map_cons, List.sum_cons]; omega
    · simp only [List.map_cons, List.sum_cons, ih]; omega

theorem getCount_eq_zero_of_not_mem (k : κ) (l : List (κ × Nat)) (h : ∀ p ∈ l, (p.1 == k) = false) : getCount k l = 0 := by
  induction l with
  | nil => rfl
  | cons p rest ih =>
    obtain ⟨k', v⟩ := p
    rw [getCount_cons, h (k', v) List.mem_cons_self]
    exact ih (fun q hq => h q (List.mem_cons_of_mem _ hq))

variable [LawfulBEq κ]

theorem getCount_incr (k k' : κ) (n : Nat) (l : List (κ × Nat)) :
    getCount k (incr k' n l) = getCount k l + (if k' == k then n else 0) := by
  induction l with
  | nil => simp only [incr, getCount_cons]; cases k' == k <;> simp [getCount]
  | cons p rest ih =>
    obtain ⟨a, b⟩ := p
    simp only [incr]
    by_cases hak' : a = k'
    · subst hak'
      simp only [beq_self_eq_true, if_true, getCount_cons]
      cases a == k <;> simp
    · simp only [beq_eq_false_iff_ne.mpr hak', Bool.false_eq_true, if_false, getCount_cons, ih]
      by_cases hk : a = k
      · subst hk
        simp [beq_eq_false_iff_ne.mpr (Ne.symm hak')]
      · simp [beq_eq_false_iff_ne.mpr hk]

/-- a dict keeps its keys in insertion order: `incr` leaves them alone, or appends the new key -/
theorem keys_incr (k : κ) (n : Nat) (l : List (κ × Nat)) :
    (incr k n l).map (·.1) = if k ∈ l.map (·.1) then l.map (·.1) else l.map (·.1) ++ [k] := by
  induction l with
  | nil => simp [incr]
  | cons p rest ih =>
    obtain ⟨a, v⟩ := p
    unfold incr
    by_cases h : a = k
    · subst h; simp
    · rw [if_neg (by simpa using h)]
      simp only [List.map_cons, List.mem_cons, Ne.symm h, false_or, ih]
      split <;> simp

theorem nodup_keys_incr (k : κ) (n : Nat) (l : List (κ × Nat)) (h : (l.map (·.1)).Nodup) :
    ((incr k n l).map (·.1)).Nodup := by
  rw [keys_incr]
  split
  · exact h
  · rename_i hk
    rw [List.nodup_append]
    refine ⟨h, by simp, ?_⟩
    intro a ha b hb
    simp at hb; subst hb
    intro e; subst e; exact hk ha

/-! Tallying: a fold of `incr … 1` over a list counts, per key, the elements that map to it. -/

section
variable {α : Type} (f : α → κ)

theorem getCount_foldl_incr (k : κ) (xs : List α) (l : List (κ × Nat)) :
    getCount k (xs.foldl (fun l x => incr (f x) 1 l) l) = getCount k l + xs.countP (fun x => f x == k) := by
  induction xs generalizing l with
  | nil => rfl
  | cons x xs ih => rw [List.foldl_cons, ih, getCount_incr, List.countP_cons, Nat.add_assoc, Nat.add_comm (List.countP _ xs)]

theorem nodup_keys_foldl_incr (xs : List α) (l : List (κ × Nat)) (h : (l.map (·.1)).Nodup) :
    ((xs.foldl (fun l x => incr (f x) 1 l) l).map (·.1)).Nodup := by
  induction xs generalizing l with
  | nil => exact h
  | cons x xs ih => exact ih _ (nodup_keys_incr _ _ _ h)

end

end Cutadapt
