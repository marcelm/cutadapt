import Cutadapt.Spec.Edit
/-! Edit scripts (`Spec/Edit.lean`) as such, independent of any aligner: reversal, renaming of the characters, the lengths of
    the two sides against the cost, cutting a script where one of its sides is cut, scripts of one kind of operation. -/
namespace Cutadapt.Spec
open Cutadapt

theorem lhs_reverse (s : List Op) : lhs s.reverse = (lhs s).reverse := by
  induction s with
  | nil => rfl
  | cons o s ih => cases o <;> simp [Op.lhs, ih]

theorem rhs_reverse (s : List Op) : rhs s.reverse = (rhs s).reverse := by
  induction s with
  | nil => rfl
  | cons o s ih => cases o <;> simp [Op.rhs, ih]

theorem cost_reverse (eq : Sym → Sym → Bool) (c : Nat) (s : List Op) : cost eq c s.reverse = cost eq c s := by
  induction s with
  | nil => rfl
  | cons o s ih => rw [List.reverse_cons, cost_append, ih, cost_single, cost_cons, Nat.add_comm]

def Op.map (f g : Sym → Sym) : Op → Op
  | .sub r q => .sub (f r) (g q)
  | .del r => .del (f r)
  | .ins q => .ins (g q)

/-- a script read through `f` on the adapter side and `g` on the read side: the cost is kept if the character relations agree -/
theorem script_map (f g : Sym → Sym) (eq eq' : Sym → Sym → Bool) (c : Nat) (s : List Op)
    (h : ∀ x ∈ lhs s, ∀ y, eq' x y = eq (f x) (g y)) :
    lhs (s.map (Op.map f g)) = (lhs s).map f ∧ rhs (s.map (Op.map f g)) = (rhs s).map g ∧
    cost eq c (s.map (Op.map f g)) = cost eq' c s := by
  induction s with
  | nil => exact ⟨rfl, rfl, rfl⟩
  | cons o s ih =>
    obtain ⟨h1, h2, h3⟩ := ih fun x hx => h x (by rw [lhs_cons]; exact List.mem_append_right _ hx)
    cases o with
    | sub r q => simp [Op.map, Op.lhs, Op.rhs, Op.cost, h1, h2, h3, h r (by simp [Op.lhs]) q]
    | del r => simp [Op.map, Op.lhs, Op.rhs, Op.cost, h1, h2, h3]
    | ins q => simp [Op.map, Op.lhs, Op.rhs, Op.cost, h1, h2, h3]

/-- the two sides of a script differ in length by at most its cost -/
theorem length_le_cost (eq : Sym → Sym → Bool) (c : Nat) (hc : 1 ≤ c) (s : List Op) :
    (lhs s).length ≤ (rhs s).length + cost eq c s ∧ (rhs s).length ≤ (lhs s).length + cost eq c s := by
  induction s with
  | nil => simp
  | cons o s ih => cases o <;> simp [Op.lhs, Op.rhs, Op.cost] <;> omega

theorem lhs_length_le (eq : Sym → Sym → Bool) (c : Nat) (hc : 1 ≤ c) (s : List Op) :
    (lhs s).length ≤ (rhs s).length + cost eq c s := (length_le_cost eq c hc s).1

theorem rhs_length_le (eq : Sym → Sym → Bool) (c : Nat) (hc : 1 ≤ c) (s : List Op) :
    (rhs s).length ≤ (lhs s).length + cost eq c s := (length_le_cost eq c hc s).2

/-- where every element contributes at most one character, a cut of the concatenation is a cut of the list -/
theorem flatMap_eq_append {α β : Type} (f : α → List β) (hf : ∀ a, (f a).length ≤ 1) (s : List α) (x y : List β)
    (h : s.flatMap f = x ++ y) : ∃ s1 s2, s = s1 ++ s2 ∧ s1.flatMap f = x ∧ s2.flatMap f = y := by
  induction s generalizing x with
  | nil =>
    obtain ⟨rfl, rfl⟩ := List.append_eq_nil_iff.mp h.symm
    exact ⟨[], [], rfl, rfl, rfl⟩
  | cons o s ih =>
    cases x with
    | nil => exact ⟨[], o :: s, rfl, rfl, h⟩
    | cons a x =>
      rw [List.flatMap_cons] at h
      match hfo : f o, hf o with
      | [], _ =>
        rw [hfo, List.nil_append] at h
        obtain ⟨s1, s2, rfl, h1, h2⟩ := ih (a :: x) h
        exact ⟨o :: s1, s2, rfl, by simp [hfo, h1], h2⟩
      | [b], _ =>
        rw [hfo, List.cons_append, List.nil_append, List.cons_append, List.cons.injEq] at h
        obtain ⟨s1, s2, rfl, h1, h2⟩ := ih x h.2
        exact ⟨o :: s1, s2, rfl, by simp [hfo, h1, h.1], h2⟩
      | _ :: _ :: _, hlen => simp at hlen

theorem split_lhs (sc : List Op) (x y : List Sym) (h : lhs sc = x ++ y) :
    ∃ s1 s2, sc = s1 ++ s2 ∧ lhs s1 = x ∧ lhs s2 = y :=
  flatMap_eq_append Op.lhs (fun o => by cases o <;> simp [Op.lhs]) sc x y h

theorem split_rhs (sc : List Op) (x y : List Sym) (h : rhs sc = x ++ y) :
    ∃ s1 s2, sc = s1 ++ s2 ∧ rhs s1 = x ∧ rhs s2 = y :=
  flatMap_eq_append Op.rhs (fun o => by cases o <;> simp [Op.rhs]) sc x y h

theorem del_script (eq : Sym → Sym → Bool) (c : Nat) (xs : List Sym) :
    lhs (xs.map Op.del) = xs ∧ rhs (xs.map Op.del) = [] ∧ cost eq c (xs.map Op.del) = xs.length * c := by
  induction xs with
  | nil => simp
  | cons x xs ih => simp [ih, Op.lhs, Op.rhs, Op.cost, Nat.add_mul, Nat.add_comm]

theorem ins_script (eq : Sym → Sym → Bool) (c : Nat) (ys : List Sym) :
    lhs (ys.map Op.ins) = [] ∧ rhs (ys.map Op.ins) = ys ∧ cost eq c (ys.map Op.ins) = ys.length * c := by
  induction ys with
  | nil => simp
  | cons y ys ih => simp [ih, Op.lhs, Op.rhs, Op.cost, Nat.add_mul, Nat.add_comm]

/-- a script without adapter characters consists of insertions only -/
theorem cost_of_lhs_nil (eq : Sym → Sym → Bool) (c : Nat) (s : List Op) (h : lhs s = []) :
    cost eq c s = (rhs s).length * c := by
  induction s with
  | nil => simp
  | cons o s ih =>
    rw [lhs_cons, List.append_eq_nil_iff] at h
    cases o with
    | ins q => simp [Op.cost, Op.rhs, ih h.2, Nat.add_mul, Nat.add_comm]
    | _ => simp [Op.lhs] at h

/-- the Hamming distance counts positions of the first string -/
theorem hamming_le_length (eq : Sym → Sym → Bool) : ∀ (xs ys : List Sym), hamming eq xs ys ≤ xs.length
  | [], _ => by simp [hamming]
  | _ :: _, [] => by simp [hamming]
  | x :: xs, y :: ys => by
    have := hamming_le_length eq xs ys
    simp only [hamming, List.length_cons]
    split <;> omega

/-- equally long strings are aligned position by position at the cost of their Hamming distance -/
theorem sub_script (eq : Sym → Sym → Bool) (c : Nat) : ∀ (xs ys : List Sym), xs.length = ys.length →
    ∃ s, lhs s = xs ∧ rhs s = ys ∧ cost eq c s = hamming eq xs ys
  | [], [], _ => ⟨[], rfl, rfl, rfl⟩
  | [], _ :: _, h => by simp at h
  | _ :: _, [], h => by simp at h
  | x :: xs, y :: ys, h => by
    obtain ⟨s, h1, h2, h3⟩ := sub_script eq c xs ys (by simpa using h)
    exact ⟨.sub x y :: s, by simp [h1, Op.lhs], by simp [h2, Op.rhs], by simp [h3, Op.cost, hamming]⟩

/-- a script cheaper than one indel consists of aligned pairs only -/
theorem no_indel_script (eq : Sym → Sym → Bool) (c : Nat) : ∀ (s : List Op), cost eq c s < c →
    (lhs s).length = (rhs s).length ∧ hamming eq (lhs s) (rhs s) = cost eq c s
  | [], _ => ⟨rfl, rfl⟩
  | .sub r q :: s, h => by
    simp only [cost_cons, Op.cost] at h
    obtain ⟨h1, h2⟩ := no_indel_script eq c s (by omega)
    simp [Op.lhs, Op.rhs, Op.cost, hamming, h1, h2]
  | .del r :: s, h => by simp only [cost_cons, Op.cost] at h; omega
  | .ins q :: s, h => by simp only [cost_cons, Op.cost] at h; omega

end Cutadapt.Spec
