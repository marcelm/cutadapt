import Cutadapt.Proofs.ParserMeaning
/-! Linked adapters and `make_adapter` on a rendered adapter or linked adapter (C18). -/
namespace Cutadapt.ParserProofs
open Cutadapt.Parser Cutadapt.Notation

theorem noAnywhere_get {p : Part} (hna : p.noAnywhere) : Params.get (paramDict p.params) .anywhere = none := by
  refine paramDict_get_none _ _ fun q hq hk => hna q hq ?_
  -- `anywhere` is the only name with that key
  revert hk
  cases q.name <;> simp [PName.key]

/-- **One half of a linked adapter**: parsing and construction as the parser does them, against `meaningPart`. -/
theorem linkedPart_sem {p : Part} (hp : p.WF) (hna : p.noAnywhere) {sp : Params} {base : Base} (hsp : SPOK sp base)
    (t : AType) (nm : Option Str) :
    match meaningPart t true p base nm with
    | .error _ =>
      (∃ e, parseASpec p.render t = .error e ∧ e.isCmdline = true) ∨
      (∃ A e, parseASpec p.render t = .ok A ∧
        construct A.cls A.sequence nm ((sp.update A.parameters).erase .required) = .error e ∧ e.isCmdline = true)
    | .ok (a, req) =>
      ∃ A, parseASpec p.render t = .ok A ∧
        construct A.cls A.sequence nm ((sp.update A.parameters).erase .required) = .ok a ∧
        Params.get (sp.update A.parameters) .required = req ∧ A.restriction.isSome = p.restr.restricted ∧ A.name = p.name := by
  unfold meaningPart
  by_cases hc : paramsConsistent p.params = true
  case neg =>
    simp only [hc, Bool.not_false, if_true]
    exact Or.inl (parseASpec_err hp t (Or.inl (by simpa using hc)))
  simp only [hc, Bool.not_true, Bool.false_eq_true, if_false]
  cases hcls : classOf t p.restr (paramSem p.params).rightmost with
  | none => exact Or.inl (parseASpec_err hp t (Or.inr (Or.inl hcls)))
  | some cls =>
    simp only
    by_cases ho : (paramSem p.params).o.isSome = true ∧ p.restr.anchored = true
    · simp only [ho, and_self, if_true]
      exact Or.inl (parseASpec_err hp t (Or.inr (Or.inr ho)))
    simp only [ho, if_false, false_and, Bool.false_and]
    obtain ⟨A, hA, hAn, hAr, hAs, _, _, hAcls, hAg⟩ := parseASpec_ok hp t hc hcls ho
    have hanchIff := classOf_anchored_iff hcls
    have hfaNone : Params.get (paramDict p.params) .forceAnywhere = none := paramDict_get_global _ (by simp)
    have hkw : ∀ k, Params.get ((sp.update A.parameters).erase .required) k =
        if k = .required then none else
          match aGet (paramDict p.params) (expandRuns p.runs).length k with
          | some v => some v
          | none => Params.get sp k := by
      intro k
      rw [Params.get_erase, Params.get_update, hAg]
      by_cases hk : k = .required
      · simp [hk]
      · simp only [hk, if_false]
        cases aGet (paramDict p.params) (expandRuns p.runs).length k <;> rfl
    have hcp := construct_part hp hsp hanchIff nm ((sp.update A.parameters).erase .required) false
      (by
        intro k hk
        have hne : k ≠ .required := by rintro rfl; cases hk
        exact (hkw k).trans (if_neg hne))
      (by
        unfold Params.flag
        rw [hkw]
        simp [aGet, postGet, hfaNone, hsp.other _ (by decide : kwAllowed .anywhere .forceAnywhere = false)])
      (by
        intro k hbadk
        have hbad2 : kwAllowed .anywhere k = false := by cases k <;> simp [kwAllowed] at hbadk ⊢
        rw [hkw, hsp.other k hbad2]
        cases k <;> simp [kwAllowed] at hbad2 <;> simp [aGet, postGet, hfaNone, noAnywhere_get hna])
    have hreq : Params.get (sp.update A.parameters) .required = (paramSem p.params).required := by
      rw [Params.get_update, hAg, hsp.other _ (by decide)]
      simp only [aGet, ← paramSem_required]
      cases (paramSem p.params).required <;> rfl
    revert hcp
    cases buildPart p base cls nm false with
    | error k =>
      rintro ⟨e, he, hk⟩
      exact Or.inr ⟨A, e, hA, by rw [hAcls, hAs]; exact he, hk⟩
    | ok ar =>
      obtain ⟨a, r⟩ := ar
      rintro ⟨h1, h2⟩
      refine ⟨A, hA, by rw [hAcls, hAs]; exact h1, by rw [hreq, h2], ?_, hAn⟩
      rw [hAr]; exact restrictionOf_isSome _

theorem meaningPart_err_kind {t : AType} {inL : Bool} {p : Part} {base : Base} {nm : Option Str} {k : Kind}
    (h : meaningPart t inL p base nm = .error k) : k = .cmdline := by
  unfold meaningPart at h
  refine ite_err_kind (fun h => ?_) h
  cases hc : classOf t p.restr (paramSem p.params).rightmost with
  | none => rw [hc] at h; injection h with h; exact h.symm
  | some cls =>
    rw [hc] at h
    exact ite_err_kind (ite_err_kind buildPart_err_kind) h

/-- **A rendered linked adapter** is built as documented. -/
theorem makeLinked_sem {f b : Part} (hf : f.WF) (hb : b.WF) (hfa : f.noAnywhere) (hba : b.noAnywhere)
    {sp : Params} {base : Base} (hsp : SPOK sp base) (o : Opt) (hname : Option Str) :
    toKind (makeLinked f.render b.render hname o.atype sp) = meaningBody o (.linked f b) base hname := by
  unfold meaningBody
  by_cases hob : o = .b
  · subst hob
    simp [makeLinked, Opt.atype, toKind, kindOf, Err.isCmdline, Err.cls]
  have hty : o.atype ≠ .anywhere := by cases o <;> simp [Opt.atype] at hob ⊢
  have hfront : (o.atype = .front) ↔ o = .g := by cases o <;> simp [Opt.atype]
  simp only [hob, if_false]
  unfold makeLinked
  simp only [hty, if_false]
  have h1 := linkedPart_sem hf hfa hsp .front (some (cs!"linked_front"))
  have h2 := linkedPart_sem hb hba hsp .back (some (cs!"linked_back"))
  cases hm1 : meaningPart .front true f base (some (cs!"linked_front")) with
  | error k1 =>
    rw [hm1] at h1
    have := meaningPart_err_kind hm1
    subst this
    simp only
    rcases h1 with ⟨e, he, hk⟩ | ⟨F, e, hF, hcF, hk⟩
    · simp only [he]; exact toKind_cmdline e hk
    · simp only [hF]
      -- whatever the back part does, the result is a rejection
      cases hmb : meaningPart .back true b base (some (cs!"linked_back")) with
      | error k2 =>
        rw [hmb] at h2
        rcases h2 with ⟨e2, he2, hk2⟩ | ⟨B, e2, hB, hcB, hk2⟩
        · simp only [he2]; exact toKind_cmdline e2 hk2
        · simp only [hB, hcF]; exact toKind_cmdline e hk
      | ok r2 =>
        rw [hmb] at h2
        obtain ⟨B, hB, _⟩ := h2
        simp only [hB, hcF]; exact toKind_cmdline e hk
  | ok r1 =>
    obtain ⟨fa, freq⟩ := r1
    rw [hm1] at h1
    obtain ⟨F, hF, hcF, hFreq, hFres, hFname⟩ := h1
    simp only [hF]
    cases hm2 : meaningPart .back true b base (some (cs!"linked_back")) with
    | error k2 =>
      rw [hm2] at h2
      have := meaningPart_err_kind hm2
      subst this
      simp only
      rcases h2 with ⟨e2, he2, hk2⟩ | ⟨B, e2, hB, hcB, hk2⟩
      · simp only [he2]; exact toKind_cmdline e2 hk2
      · simp only [hB, hcF, hcB]; exact toKind_cmdline e2 hk2
    | ok r2 =>
      obtain ⟨ba, breq⟩ := r2
      rw [hm2] at h2
      obtain ⟨B, hB, hcB, hBreq, hBres, hBname⟩ := h2
      simp only [hB, hcF, hcB, toKind, hFreq, hBreq, hFres, hBres, hFname, optOr_eq, hfront]

theorem nodot_of_plain {s : Str} (hs : ∀ c ∈ s, plainChar c = true) : '.' ∉ s := fun h => (plain_ne (hs _ h)).dot rfl

theorem numlit_dotsafe {l : NumLit} (hl : l.WF) : DotSafe l.render := by
  cases l with
  | int n => exact DotSafe_of_nodot (nodot_of_plain (natDigits_plain n))
  | dec ip frac =>
    refine DotSafe_append (DotSafe_of_nodot (nodot_of_plain (natDigits_plain ip))) ?_
    have hpl := fracChars_plain frac
    cases hfr : fracChars frac with
    | nil =>
      exfalso
      cases frac with
      | nil => exact hl rfl
      | cons d r => simp [fracChars] at hfr
    | cons d r =>
      rw [hfr] at hpl
      exact ⟨fun _ => ⟨d, r, rfl, (plain_ne (hpl d (by simp))).dot⟩, DotSafe_of_nodot (nodot_of_plain hpl)⟩

theorem param_dotsafe {q : Param} (hq : q.WF) : DotSafe (';' :: q.render) := by
  have hn : '.' ∉ q.name.render := nodot_of_plain (pname_plain _)
  refine ⟨fun h => absurd h (by decide), ?_⟩
  unfold Param.render
  refine DotSafe_append (DotSafe_of_nodot hn) ?_
  cases hv : q.value with
  | none => trivial
  | some v =>
    exact ⟨fun h => absurd h (by decide), numlit_dotsafe (Param.WF_value hq hv)⟩

theorem params_dotsafe {ps : List Param} (hps : ∀ q ∈ ps, q.WF) : DotSafe (renderParams ps) := by
  induction ps with
  | nil => trivial
  | cons q qs ih =>
    rw [renderParams_cons]
    have := DotSafe_append (param_dotsafe (hps q (by simp))) (ih (fun x hx => hps x (by simp [hx])))
    simpa using this

theorem part_dotsafe {p : Part} (hp : p.WF) : DotSafe p.render := by
  have hd : '.' ∉ p.renderHead := fun h =>
    head_forall (P := (· ≠ '.')) (fun _ h => (plain_ne h).dot) (by decide) hp _ h rfl
  exact DotSafe_append (DotSafe_of_nodot hd) (params_dotsafe hp.2.2.1)

theorem part_forall {P : Char → Prop} (hP : Textual P) (hsemi : P ';') {p : Part} (hp : p.WF) : ∀ c ∈ p.render, P c := by
  intro c hc
  rcases List.mem_append.mp hc with hc | hc
  · exact head_forall hP.plain hP.eq hp c hc
  · exact params_forall hP hsemi _ c hc

theorem part_ne_nil {p : Part} (hp : p.WF) : p.render ≠ [] := by
  obtain ⟨c, tl, hsq, _⟩ := edge_head hp.2.2.2
  have hc : c ∈ expandRuns p.runs := by simp [hsq]
  obtain ⟨r, hr, _⟩ := mem_expandRuns hc
  intro h
  have : r.c ∈ p.render := by
    simp only [Part.render, Part.renderHead, renderRuns, List.mem_append, List.mem_flatMap]
    exact Or.inl (Or.inl (Or.inr ⟨r, hr, by simp [Run.render]⟩))
  rw [h] at this
  cases this

theorem body_forall {P : Char → Prop} (hP : Textual P) (hsemi : P ';') {b : Body} (hb : b.WF) : ∀ c ∈ b.render, P c := by
  intro c hc
  cases b with
  | single p => exact part_forall hP hsemi hb c hc
  | linked f bk =>
    simp only [Body.render, List.mem_append] at hc
    rcases hc with (hc | hc) | hc
    · exact part_forall hP hsemi hb.1 c hc
    · simp at hc; subst hc; exact hP.dot
    · exact part_forall hP hsemi hb.2.1 c hc

/-- **`make_adapter` on a rendered adapter or linked adapter.** -/
theorem makeAdapter_sem {b : Body} (hb : b.WF) {sp : Params} {base : Base} (hsp : SPOK sp base) (o : Opt) (hname : Option Str) :
    toKind (makeAdapter b.render o.atype sp hname) = meaningBody o b base hname := by
  cases b with
  | single p =>
    unfold makeAdapter
    simp only [Body.render, partDots_safe (part_dotsafe hb), Bool.false_eq_true, false_and, if_false]
    rw [makeNotLinked_sem hb hsp]
    rfl
  | linked f bk =>
    unfold makeAdapter
    have : (Body.linked f bk).render = f.render ++ '.' :: '.' :: '.' :: bk.render := by simp [Body.render]
    rw [this, partDots_app _ (part_dotsafe hb.1)]
    simp only [part_ne_nil hb.1, part_ne_nil hb.2.1, ne_eq, not_false_eq_true, and_self, if_true]
    exact makeLinked_sem hb.1 hb.2.1 hb.2.2.1 hb.2.2.2 hsp o hname

end Cutadapt.ParserProofs
