import Cutadapt.Kmer
/-! `kmer_chunks` meets its specification; canonical sets have the members of the lists they are built from. -/
namespace Cutadapt.Kmer

/-- whatever `lt` is, `insertUniq` adds nothing but `x` -/
theorem mem_insertUniq_of {lt : α → α → Bool} {x y : α} {l : List α} (h : y ∈ insertUniq lt x l) : y = x ∨ y ∈ l := by
  induction l with
  | nil => exact Or.inl (List.mem_singleton.mp h)
  | cons z zs ih =>
    simp only [insertUniq] at h
    split at h
    · exact List.mem_cons.mp h
    · split at h
      · rcases List.mem_cons.mp h with h | h
        · exact Or.inr (h ▸ List.mem_cons_self)
        · exact (ih h).imp_right (List.mem_cons_of_mem _)
      · exact Or.inr h

/-- whatever `lt` is, `insertUniq` loses nothing -/
theorem mem_insertUniq_old {lt : α → α → Bool} {x y : α} {l : List α} (h : y ∈ l) : y ∈ insertUniq lt x l := by
  induction l with
  | nil => cases h
  | cons z zs ih =>
    simp only [insertUniq]
    split
    · exact List.mem_cons_of_mem _ h
    · split
      · rcases List.mem_cons.mp h with h | h
        · exact h ▸ List.mem_cons_self
        · exact List.mem_cons_of_mem _ (ih h)
      · exact h

theorem mem_insertUniq_new {lt : α → α → Bool} (tri : ∀ a b, lt a b = false → lt b a = false → a = b)
    {x : α} {l : List α} : x ∈ insertUniq lt x l := by
  induction l with
  | nil => exact List.mem_singleton.mpr rfl
  | cons z zs ih =>
    simp only [insertUniq]
    split
    · exact List.mem_cons_self
    · split
      · exact List.mem_cons_of_mem _ ih
      · rename_i h1 h2
        -- neither is below the other: `x` is there already
        rw [tri x z (by simpa using h1) (by simpa using h2)]
        exact List.mem_cons_self

theorem mem_insertUniq {lt : α → α → Bool} (tri : ∀ a b, lt a b = false → lt b a = false → a = b)
    {x y : α} {l : List α} : y ∈ insertUniq lt x l ↔ y = x ∨ y ∈ l :=
  ⟨mem_insertUniq_of, fun h => h.elim (fun h => h ▸ mem_insertUniq_new tri) mem_insertUniq_old⟩

theorem mem_sortUniq {lt : α → α → Bool} (tri : ∀ a b, lt a b = false → lt b a = false → a = b)
    {x : α} {l : List α} : x ∈ sortUniq lt l ↔ x ∈ l := by
  induction l with
  | nil => simp [sortUniq]
  | cons y ys ih =>
    rw [show sortUniq lt (y :: ys) = insertUniq lt y (sortUniq lt ys) from rfl, mem_insertUniq tri, ih, List.mem_cons]

theorem bytesLt_tri : ∀ a b : Bytes, bytesLt a b = false → bytesLt b a = false → a = b
  | [], [], _, _ => rfl
  | [], _ :: _, h, _ => by simp [bytesLt] at h
  | _ :: _, [], _, h => by simp [bytesLt] at h
  | a :: as, b :: bs, h1, h2 => by
    simp only [bytesLt, Bool.or_eq_false_iff, decide_eq_false_iff_not, Bool.and_eq_false_imp, beq_iff_eq] at h1 h2
    have hab : a = b := UInt8.le_antisymm (UInt8.not_lt.mp h2.1) (UInt8.not_lt.mp h1.1)
    subst hab
    rw [bytesLt_tri as bs (h1.2 rfl) (h2.2 rfl)]

theorem mem_kmerChunks {s : Bytes} {c : Nat} {w : Bytes} : w ∈ kmerChunks s c ↔ w ∈ kmerChunksList s c :=
  mem_sortUniq bytesLt_tri

theorem chunkSizes_length (n c : Nat) (hc : 1 ≤ c) : (chunkSizes n c).length = c := by
  have := Nat.mod_lt n (by omega : c > 0)
  simp [chunkSizes]; omega

theorem chunkSizes_sum (n c : Nat) (hc : 1 ≤ c) : (chunkSizes n c).sum = n := by
  have hr := Nat.mod_lt n (by omega : c > 0)
  simp only [chunkSizes, List.sum_append, List.sum_replicate_nat]
  have h1 : n % c * (n / c + 1) = n % c * (n / c) + n % c := by rw [Nat.mul_add, Nat.mul_one]
  have h2 : n % c * (n / c) + (c - n % c) * (n / c) = c * (n / c) := by
    rw [← Nat.add_mul]; congr 1; omega
  have h3 := Nat.div_add_mod n c
  omega

theorem chunkSizes_mem (n c k : Nat) (h : k ∈ chunkSizes n c) : k = n / c ∨ k = n / c + 1 := by
  simp only [chunkSizes, List.mem_append, List.mem_replicate] at h
  rcases h with ⟨_, h⟩ | ⟨_, h⟩ <;> simp [h]

theorem splitSizes_length (sizes : List Nat) (s : Bytes) : (splitSizes sizes s).length = sizes.length := by
  induction sizes generalizing s with
  | nil => rfl
  | cons k ks ih => simp [splitSizes, ih]

theorem splitSizes_flatten (sizes : List Nat) (s : Bytes) (h : sizes.sum = s.length) :
    (splitSizes sizes s).flatten = s := by
  induction sizes generalizing s with
  | nil => simp at h; simp [splitSizes, List.length_eq_zero_iff.mp h.symm]
  | cons k ks ih =>
    simp only [List.sum_cons] at h
    simp only [splitSizes, List.flatten_cons]
    rw [ih (s.drop k) (by simp; omega), List.take_append_drop]

theorem splitSizes_map_length (sizes : List Nat) (s : Bytes) (h : sizes.sum ≤ s.length) :
    (splitSizes sizes s).map List.length = sizes := by
  induction sizes generalizing s with
  | nil => rfl
  | cons k ks ih =>
    simp only [List.sum_cons] at h
    simp only [splitSizes, List.map_cons, List.length_take]
    rw [ih (s.drop k) (by simp; omega)]
    congr 1; omega

theorem kmerChunksList_spec (s : Bytes) (c : Nat) (h1 : 1 ≤ c) (h2 : c ≤ s.length) :
    (kmerChunksList s c).flatten = s ∧ (kmerChunksList s c).length = c ∧
    (∀ w ∈ kmerChunksList s c, w.length = s.length / c ∨ w.length = s.length / c + 1) ∧
    (∀ w ∈ kmerChunksList s c, w ≠ []) := by
  have hsum := chunkSizes_sum s.length c h1
  have hml := splitSizes_map_length (chunkSizes s.length c) s (by omega)
  have hsz : ∀ w ∈ kmerChunksList s c, w.length = s.length / c ∨ w.length = s.length / c + 1 := by
    intro w hw
    have : w.length ∈ (splitSizes (chunkSizes s.length c) s).map List.length := List.mem_map_of_mem hw
    rw [hml] at this
    exact chunkSizes_mem _ _ _ this
  refine ⟨splitSizes_flatten _ _ hsum, ?_, hsz, ?_⟩
  · simp [kmerChunksList, splitSizes_length, chunkSizes_length _ _ h1]
  · intro w hw hnil
    have hq : 1 ≤ s.length / c := (Nat.le_div_iff_mul_le (by omega)).mpr (by omega)
    have := hsz w hw
    simp [hnil] at this
    omega

end Cutadapt.Kmer
