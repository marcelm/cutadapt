import Cutadapt.Stats
/-! `makeSteps` in closed form (`makeSteps_ok`, `makeSteps_of_ok`): which checks must pass, and the steps and files that result.
    The `do` block is taken apart stage by stage (`text_stage`, `len_stage`, `opt_stage`); its last part is `stFinal`. -/
namespace Cutadapt.Steps
open Cutadapt

abbrev K := Files → List Step → Except Err (List Step × Files)

def bothStep (paired : Bool) (mode : PairMode) (p : Pred) : Step :=
  if paired = true then Step.filter (some p) (some p) mode none else Step.filter (some p) none mode none

def demuxWriter (o : Opts) (n : String) : Writer :=
  if o.paired = true then ⟨o.output.replace "{name}" n, (o.pairedOutput.map (·.replace "{name}" n)), false⟩
  else ⟨o.output.replace "{name}" n, none, false⟩

def unknownWriter (o : Opts) : Writer :=
  if o.paired = true then
    ⟨o.untrimmedOut.getD (o.output.replace "{name}" "unknown"),
      some (o.untrimmedPaired.getD ((o.pairedOutput.getD "").replace "{name}" "unknown")), false⟩
  else ⟨o.untrimmedOut.getD (o.output.replace "{name}" "unknown"), none, false⟩

def combKeys (o : Opts) (names names2 : List String) : List (Option String × Option String) :=
  (names.flatMap fun a => names2.map fun b => (some a, some b)) ++
    (if o.discardUntrimmed = true then [] else
        [(none, none)] ++ names2.map (fun n => (none, some n)) ++ names.map (fun n => (some n, none)))

def combWriter (o : Opts) (k : Option String × Option String) : Writer :=
  ⟨((o.output.replace "{name1}" (k.1.getD "unknown")).replace "{name2}" (k.2.getD "unknown")),
   some (((o.pairedOutput.getD "").replace "{name1}" (k.1.getD "unknown")).replace "{name2}" (k.2.getD "unknown")), false⟩

def sinkWriter (o : Opts) : Writer :=
  if o.paired = true then ⟨o.output, o.pairedOutput, o.pairedOutput.isNone⟩ else ⟨o.output, none, false⟩

def stFinal (o : Opts) (names names2 : List String) (mode : PairMode) (f : Files) (steps : List Step) :
    Except Err (List Step × Files) :=
  let untrimmedGiven := o.untrimmedOut.isSome || o.untrimmedPaired.isSome
  if (if o.discardTrimmed = true then 1 else 0) + (if o.discardUntrimmed = true then 1 else 0) +
      (if untrimmedGiven = true then 1 else 0) > 1 then .error .cmdline else
  demuxMode o >>= fun dm =>
  if (dm != 0 && o.discardTrimmed) = true then .error .cmdline else
  if (dm == 2 && o.pairAdapters) = true then .error .cmdline else
  if (dm == 1) = true then
    (forIn names (f, ([] : List (String × Nat))) fun n s =>
      match s.1.openWriter (demuxWriter o n) with
      | (f', i) => pure (ForInStep.yield (f', s.2 ++ [(n, i)]))) >>= fun s =>
    if (!o.discardUntrimmed) = true then
      match s.1.openWriter (unknownWriter o) with
      | (f', i) => pure (steps ++ [Step.demux s.2 (some i)], f')
    else pure (steps ++ [Step.demux s.2 none], s.1)
  else if (dm == 2) = true then
    if untrimmedGiven = true then .error .cmdline else
    (forIn (combKeys o names names2) (f, ([] : List ((Option String × Option String) × Nat))) fun k s =>
      match s.1.openWriter (combWriter o k) with
      | (f', i) => pure (ForInStep.yield (f', s.2 ++ [(k, i)]))) >>= fun s =>
    pure (steps ++ [Step.combDemux s.2], s.1)
  else
    let override := o.paired && (names2.isEmpty || names.isEmpty) && (o.discardUntrimmed || untrimmedGiven)
    let fin : K := fun f steps =>
      match f.openWriter (sinkWriter o) with
      | (f', i) => pure (steps ++ [Step.sink i], f')
    if o.discardTrimmed = true then fin f (steps ++ [bothStep o.paired mode .isTrimmed])
    else if o.discardUntrimmed = true then
      fin f (steps ++ [if o.paired = true then .filter (some .isUntrimmed) (some .isUntrimmed) (if override = true then .both else mode) none
                       else .filter (some .isUntrimmed) none mode none])
    else if untrimmedGiven = true then
      match filterWriter o.paired f o.untrimmedOut o.untrimmedPaired with
      | (f', w) =>
        fin f' (steps ++ [.filter (some .isUntrimmed) (if o.paired = true then some .isUntrimmed else none)
          (if override = true then .both else mode) w])
    else fin f steps

def addText (p : Option String) (mk : Nat → Step) (st : Files × List Step) : Files × List Step :=
  match p with
  | some p => ((st.1.openText p).1, st.2 ++ [mk (st.1.openText p).2])
  | none => st

theorem addText_steps (p : Option String) (mk : Nat → Step) (st : Files × List Step) :
    ∃ t, (addText p mk st).2 = st.2 ++ t := by
  cases p
  · exact ⟨[], (List.append_nil _).symm⟩
  · exact ⟨_, rfl⟩

def lenOk (paired : Bool) (l : Option (Option Int × Option Int)) (out outP : Option String) : Bool :=
  match l with
  | none => !(out.isSome || outP.isSome)
  | some _ => !(!paired && outP.isSome)

def addLen (paired : Bool) (mode : PairMode) (l : Option (Option Int × Option Int)) (mk : Int → Pred)
    (out outP : Option String) (st : Files × List Step) : Files × List Step :=
  match l with
  | none => st
  | some l => ((filterWriter paired st.1 out outP).1,
      st.2 ++ [Step.filter (lengthPreds mk paired l).1 (lengthPreds mk paired l).2 mode (filterWriter paired st.1 out outP).2])

theorem addLen_steps (paired : Bool) (mode : PairMode) (l : Option (Option Int × Option Int)) (mk : Int → Pred)
    (out outP : Option String) (st : Files × List Step) : ∃ t, (addLen paired mode l mk out outP st).2 = st.2 ++ t := by
  cases l
  · exact ⟨[], (List.append_nil _).symm⟩
  · exact ⟨_, rfl⟩

def optSteps (x : Option α) (cond : Bool) (mk : α → Step) : List Step :=
  match x with
  | some c => if cond = true then [mk c] else []
  | none => []

/-- files and steps after the rest/info/wildcard writers and the two length filters -/
def front (o : Opts) : Files × List Step :=
  addLen o.paired (o.pairFilter.getD .any) o.maxLen .tooLong o.tooLongOut o.tooLongPaired <|
  addLen o.paired (o.pairFilter.getD .any) o.minLen .tooShort o.tooShortOut o.tooShortPaired <|
  addText o.wildcardFile .wildcardWriter <| addText o.infoFile .infoWriter <| addText o.restFile .restWriter ({}, [])

def frontOk (o : Opts) : Bool :=
  lenOk o.paired o.minLen o.tooShortOut o.tooShortPaired && lenOk o.paired o.maxLen o.tooLongOut o.tooLongPaired

/-- the filters without output file: `--max-n`, `--max-ee`, `--max-aer`, `--discard-casava` -/
def simpleSteps (o : Opts) : List Step :=
  optSteps o.maxN true (fun c => bothStep o.paired (o.pairFilter.getD .any) (.tooManyN c)) ++
  optSteps o.maxEE o.inputHasQualities (fun c => bothStep o.paired (o.pairFilter.getD .any) (.maxEE c)) ++
  optSteps o.maxAER o.inputHasQualities (fun c => bothStep o.paired (o.pairFilter.getD .any) (.maxAER c)) ++
  (if o.discardCasava = true then [bothStep o.paired (o.pairFilter.getD .any) .casava] else [])

/-- open one writer per key, in order -/
def openMany (f : Files) (keys : List κ) (mkW : κ → Writer) : Files × List (κ × Nat) :=
  ({ f with writers := f.writers ++ keys.map mkW }, keys.zipIdx f.writers.length)

theorem forIn_open (keys : List κ) (mkW : κ → Writer) (f : Files) (acc : List (κ × Nat)) :
    (forIn keys (f, acc) fun k s =>
      match s.1.openWriter (mkW k) with
      | (f', i) => (pure (ForInStep.yield (f', s.2 ++ [(k, i)])) : Except Err _)) =
    pure ((openMany f keys mkW).1, acc ++ (openMany f keys mkW).2) := by
  induction keys generalizing f acc with
  | nil => simp [openMany]
  | cons k ks ih =>
    simp only [List.forIn_cons, pure_bind]
    rw [ih]
    simp [openMany, Files.openWriter, List.zipIdx_cons]

theorem openMany_idx {f : Files} {keys : List κ} {mkW : κ → Writer} {w : Nat}
    (h : w ∈ (openMany f keys mkW).2.map (·.2)) : f.writers.length ≤ w := by
  obtain ⟨⟨k, i⟩, hm, rfl⟩ := List.mem_map.1 h
  exact (List.mem_zipIdx hm).1

/-- the `--discard-trimmed` / `--discard-untrimmed` / `--untrimmed-output` filter (without demultiplexing) -/
def untrimmedFilter (o : Opts) (names names2 : List String) (mode : PairMode) (f : Files) : Files × List Step :=
  let untrimmedGiven := o.untrimmedOut.isSome || o.untrimmedPaired.isSome
  let override := o.paired && (names2.isEmpty || names.isEmpty) && (o.discardUntrimmed || untrimmedGiven)
  if o.discardTrimmed = true then (f, [bothStep o.paired mode .isTrimmed])
  else if o.discardUntrimmed = true then
    (f, [if o.paired = true then .filter (some .isUntrimmed) (some .isUntrimmed) (if override = true then .both else mode) none
         else .filter (some .isUntrimmed) none mode none])
  else if untrimmedGiven = true then
    ((filterWriter o.paired f o.untrimmedOut o.untrimmedPaired).1,
     [.filter (some .isUntrimmed) (if o.paired = true then some .isUntrimmed else none)
        (if override = true then .both else mode) (filterWriter o.paired f o.untrimmedOut o.untrimmedPaired).2])
  else (f, [])

theorem filterWriter_spec (paired : Bool) (f : Files) (a b : Option String) :
    f.writers.length ≤ (filterWriter paired f a b).1.writers.length ∧
    (filterWriter paired f a b).1.texts = f.texts ∧
    ∀ w ∈ (filterWriter paired f a b).2, f.writers.length ≤ w ∧ w < (filterWriter paired f a b).1.writers.length := by
  cases a <;> cases b <;> simp [filterWriter, Files.openWriter]

/-- The three outcomes of `untrimmedFilter`: nothing; the `isTrimmed` filter; or the `isUntrimmed` filter — on both reads when
    paired, with mode `both` forced when one side has no adapters — whose redirect writer, if any, is freshly opened. -/
theorem untrimmedFilter_cases (o : Opts) (names names2 : List String) (mode : PairMode) (f : Files) :
    (o.discardTrimmed = false ∧ (o.discardUntrimmed || (o.untrimmedOut.isSome || o.untrimmedPaired.isSome)) = false ∧
      untrimmedFilter o names names2 mode f = (f, [])) ∨
    (o.discardTrimmed = true ∧ untrimmedFilter o names names2 mode f = (f, [bothStep o.paired mode .isTrimmed])) ∨
    ((o.discardUntrimmed || (o.untrimmedOut.isSome || o.untrimmedPaired.isSome)) = true ∧ ∃ w,
      (untrimmedFilter o names names2 mode f).2 =
        [.filter (some .isUntrimmed) (if o.paired = true then some .isUntrimmed else none)
          (if (o.paired && (names2.isEmpty || names.isEmpty)) = true then .both else mode) w] ∧
      f.writers.length ≤ (untrimmedFilter o names names2 mode f).1.writers.length ∧
      ∀ x ∈ w, x < (untrimmedFilter o names names2 mode f).1.writers.length) := by
  unfold untrimmedFilter
  generalize (o.untrimmedOut.isSome || o.untrimmedPaired.isSome) = ug
  generalize (names2.isEmpty || names.isEmpty) = em
  obtain ⟨g1, -, g3⟩ := filterWriter_spec o.paired f o.untrimmedOut o.untrimmedPaired
  cases o.discardTrimmed
  · cases o.discardUntrimmed
    · cases ug
      · exact .inl ⟨rfl, rfl, rfl⟩
      · refine .inr (.inr ⟨rfl, (filterWriter o.paired f o.untrimmedOut o.untrimmedPaired).2, ?_, g1, fun x hx => (g3 x hx).2⟩)
        cases o.paired <;> cases em <;> rfl
    · refine .inr (.inr ⟨rfl, none, ?_, Nat.le_refl _, nofun⟩)
      cases o.paired <;> cases em <;> rfl
  · exact .inr (.inl ⟨rfl, rfl⟩)

/-- the closing steps and the files they open, for demultiplexing mode `dm` -/
def finalD (o : Opts) (names names2 : List String) (mode : PairMode) (dm : Nat) (f : Files) (steps : List Step) :
    List Step × Files :=
  if dm = 1 then
    let s := openMany f names (demuxWriter o)
    if o.discardUntrimmed = true then (steps ++ [Step.demux s.2 none], s.1)
    else (steps ++ [Step.demux s.2 (some s.1.writers.length)], (s.1.openWriter (unknownWriter o)).1)
  else if dm = 2 then
    let s := openMany f (combKeys o names names2) (combWriter o)
    (steps ++ [Step.combDemux s.2], s.1)
  else
    let u := untrimmedFilter o names names2 mode f
    (steps ++ u.2 ++ [Step.sink u.1.writers.length], (u.1.openWriter (sinkWriter o)).1)

theorem finalD_one (o : Opts) (names names2 : List String) (mode : PairMode) (f : Files) (steps : List Step) :
    finalD o names names2 mode 1 f steps =
      if o.discardUntrimmed = true then
        (steps ++ [Step.demux (openMany f names (demuxWriter o)).2 none], (openMany f names (demuxWriter o)).1)
      else (steps ++ [Step.demux (openMany f names (demuxWriter o)).2 (some (openMany f names (demuxWriter o)).1.writers.length)],
        ((openMany f names (demuxWriter o)).1.openWriter (unknownWriter o)).1) := rfl

theorem finalD_two (o : Opts) (names names2 : List String) (mode : PairMode) (f : Files) (steps : List Step) :
    finalD o names names2 mode 2 f steps =
      (steps ++ [Step.combDemux (openMany f (combKeys o names names2) (combWriter o)).2],
        (openMany f (combKeys o names names2) (combWriter o)).1) := rfl

theorem finalD_plain (o : Opts) (names names2 : List String) (mode : PairMode) {dm : Nat} (h1 : dm ≠ 1) (h2 : dm ≠ 2)
    (f : Files) (steps : List Step) :
    finalD o names names2 mode dm f steps =
      (steps ++ (untrimmedFilter o names names2 mode f).2 ++ [Step.sink (untrimmedFilter o names names2 mode f).1.writers.length],
        ((untrimmedFilter o names names2 mode f).1.openWriter (sinkWriter o)).1) := by
  simp only [finalD, if_neg h1, if_neg h2]

theorem finalD_steps (o : Opts) (names names2 : List String) (mode : PairMode) (dm : Nat) (f : Files) (steps : List Step) :
    ∃ t, (finalD o names names2 mode dm f steps).1 = steps ++ t := by
  by_cases h1 : dm = 1
  · subst h1; rw [finalD_one]; split <;> exact ⟨_, rfl⟩
  · by_cases h2 : dm = 2
    · subst h2
      rw [finalD_two]
      exact ⟨_, rfl⟩
    · rw [finalD_plain o names names2 mode h1 h2, List.append_assoc]; exact ⟨_, rfl⟩

/-- the command-line checks of the last stage -/
def finalOk (o : Opts) (dm : Nat) : Bool :=
  let untrimmedGiven := o.untrimmedOut.isSome || o.untrimmedPaired.isSome
  decide ((if o.discardTrimmed = true then 1 else 0) + (if o.discardUntrimmed = true then 1 else 0) +
      (if untrimmedGiven = true then 1 else 0) ≤ 1) &&
  !(dm != 0 && o.discardTrimmed) && !(dm == 2 && o.pairAdapters) && !(dm == 2 && untrimmedGiven)

theorem stFinal_eq (o : Opts) (names names2 : List String) (mode : PairMode) (f : Files) (steps : List Step) :
    stFinal o names names2 mode f steps =
      match demuxMode o with
      | .error e =>
        if (if o.discardTrimmed = true then 1 else 0) + (if o.discardUntrimmed = true then 1 else 0) +
          (if (o.untrimmedOut.isSome || o.untrimmedPaired.isSome) = true then 1 else 0) > 1 then .error .cmdline else .error e
      | .ok dm => if finalOk o dm = true then .ok (finalD o names names2 mode dm f steps) else .error .cmdline := by
  unfold stFinal
  simp only [forIn_open, List.nil_append]
  unfold finalOk finalD untrimmedFilter
  generalize (o.untrimmedOut.isSome || o.untrimmedPaired.isSome) = ug
  cases demuxMode o with
  | error e => cases o.discardTrimmed <;> cases o.discardUntrimmed <;> cases ug <;> rfl
  | ok dm =>
    by_cases hd1 : dm = 1
    · subst hd1
      cases o.discardTrimmed <;> cases o.discardUntrimmed <;> cases ug <;> rfl
    · by_cases hd2 : dm = 2
      · subst hd2
        cases o.discardTrimmed <;> cases o.discardUntrimmed <;> cases ug <;> cases o.pairAdapters <;> rfl
      · have hb1 : (dm == 1) = false := by simp [hd1]
        have hb2 : (dm == 2) = false := by simp [hd2]
        cases o.discardTrimmed <;> cases o.discardUntrimmed <;> cases ug <;>
          simp [bind, Except.bind, pure, Except.pure, Files.openWriter, hb1, hb2, hd1, hd2]

/-! ## The stages of the `do` block, for an arbitrary continuation `j`

The left sides are written with the patterns of the `do` block and for the concrete option types (`Option Float`, not a type variable):
only then is the `match` the very matcher of `makeSteps`, and the lemma applies while the option is still a variable. -/

theorem text_stage (p : Option String) (mk : Nat → Step) (f : Files) (s : List Step) (j : K) :
    (match p with
     | some p => match f.openText p with
       | (f', i) => j f' (s ++ [mk i])
     | _ => j f s) = j (addText p mk (f, s)).1 (addText p mk (f, s)).2 := by cases p <;> rfl

theorem len_stage (paired : Bool) (mode : PairMode) (l : Option (Option Int × Option Int)) (mk : Int → Pred)
    (out outP : Option String) (f : Files) (s : List Step) (j : K) :
    (match l with
     | none => if (out.isSome || outP.isSome) = true then throw .cmdline else j f s
     | some l =>
       if (!paired && outP.isSome) = true then throw .cmdline else
         match lengthPreds mk paired l with
         | (p1, p2) => match filterWriter paired f out outP with
           | (f', w) => j f' (s ++ [Step.filter p1 p2 mode w])) =
      if lenOk paired l out outP = true then
        j (addLen paired mode l mk out outP (f, s)).1 (addLen paired mode l mk out outP (f, s)).2
      else .error .cmdline := by
  -- in either arm the `do` block throws on the condition that `lenOk` negates
  have flip (b : Bool) (x : Except Err (List Step × Files)) :
      (if b = true then throw .cmdline else x) = if (!b) = true then x else .error .cmdline := by
    cases b <;> rfl
  cases l with
  | none => exact flip _ _
  | some l => exact flip _ _

theorem opt_stage (x : Option Float) (cond : Bool) (mk : Float → Step) (s : List Step) (j : List Step → Except Err (List Step × Files)) :
    (match x with
     | some c => if cond = true then j (s ++ [mk c]) else j s
     | _ => j s) = j (s ++ optSteps x cond mk) := by
  cases x with
  | none => simp [optSteps]
  | some c => cases cond <;> simp [optSteps]

/-- `--max-n` has no condition, so the `do` block has no `if` there -/
theorem maxN_stage (x : Option Float) (mk : Float → Step) (s : List Step) (j : List Step → Except Err (List Step × Files)) :
    (match x with
     | some c => j (s ++ [mk c])
     | _ => j s) = j (s ++ optSteps x true mk) := by
  cases x with
  | none => simp [optSteps]
  | some c => rfl

/-- In the `do` block every stage ends by calling a join point `jp` that holds all later stages. Each stage is rewritten on its own
    (`…_stage`, stated for an arbitrary continuation in the shape the `do` notation produces), then the proof goes on inside `jp`. -/
theorem makeSteps_eq (o : Opts) (names names2 : List String) : makeSteps o names names2 =
      if lenOk o.paired o.minLen o.tooShortOut o.tooShortPaired = true then
        if lenOk o.paired o.maxLen o.tooLongOut o.tooLongPaired = true then
          stFinal o names names2 (o.pairFilter.getD .any) (front o).1 ((front o).2 ++ simpleSteps o)
        else .error .cmdline
      else .error .cmdline := by
  delta makeSteps
  extract_lets -underBinder mode f0 s0 jpI
  refine (text_stage o.restFile .restWriter f0 s0 (jpI ())).trans ?_
  unfold jpI
  extract_lets -underBinder jpW
  refine (text_stage o.infoFile .infoWriter _ _ (jpW ())).trans ?_
  unfold jpW
  extract_lets -underBinder jpMin
  refine (text_stage o.wildcardFile .wildcardWriter _ _ (jpMin ())).trans ?_
  unfold jpMin
  extract_lets -underBinder jpMax
  refine (len_stage o.paired mode o.minLen .tooShort _ _ _ _ (jpMax ())).trans (ite_congr rfl (fun _ => ?_) (fun _ => rfl))
  unfold jpMax
  extract_lets -underBinder jpN
  refine (len_stage o.paired mode o.maxLen .tooLong _ _ _ _ (jpN ())).trans (ite_congr rfl (fun _ => ?_) (fun _ => rfl))
  unfold jpN
  extract_lets -underBinder both jpEE
  refine (maxN_stage o.maxN _ _ (jpEE ())).trans ?_
  unfold jpEE
  extract_lets -underBinder jpAER
  refine (opt_stage o.maxEE o.inputHasQualities _ _ (jpAER ())).trans ?_
  unfold jpAER
  extract_lets -underBinder jpCas
  refine (opt_stage o.maxAER o.inputHasQualities _ _ (jpCas ())).trans ?_
  unfold jpCas
  extract_lets -underBinder jpFin stepsC
  have hFin : ∀ s, jpFin () s = stFinal o names names2 mode (front o).1 s := fun _ => rfl
  clear_value jpFin
  simp only [hFin, stepsC, simpleSteps]
  split <;> simp only [List.append_assoc, List.append_nil] <;> rfl

theorem ite_error_ne_ok {ε α : Type} {c : Prop} [Decidable c] {a b : ε} {x : α} :
    (if c then (Except.error a : Except ε α) else .error b) ≠ .ok x := by
  split <;> exact fun h => nomatch h

/-- **`makeSteps` in closed form.** A successful assembly passed all command-line checks, and its steps and files are:
    the text-file writers and length filters (`front`), the filters without output file (`simpleSteps`), and the closing
    steps (`finalD`). -/
theorem makeSteps_ok {o : Opts} {names names2 : List String} {steps : List Step} {f : Files}
    (h : makeSteps o names names2 = .ok (steps, f)) :
    ∃ dm, demuxMode o = .ok dm ∧ frontOk o = true ∧ finalOk o dm = true ∧
      (steps, f) = finalD o names names2 (o.pairFilter.getD .any) dm (front o).1 ((front o).2 ++ simpleSteps o) := by
  rw [makeSteps_eq] at h
  split at h
  · rename_i h1
    split at h
    · rename_i h2
      rw [stFinal_eq] at h
      split at h
      · -- both branches are errors (`split at h` would go for the `if`s inside the condition)
        exact absurd h ite_error_ne_ok
      · rename_i dm hdm
        split at h
        · exact ⟨dm, hdm, by rw [frontOk, h1, h2]; rfl, ‹_›, (Except.ok.inj h).symm⟩
        · cases h
    · cases h
  · cases h

theorem makeSteps_ok_of {o : Opts} {names names2 : List String} {steps : List Step} {f : Files} {dm : Nat}
    (h : makeSteps o names names2 = .ok (steps, f)) (hdm : demuxMode o = .ok dm) :
    finalOk o dm = true ∧
      (steps, f) = finalD o names names2 (o.pairFilter.getD .any) dm (front o).1 ((front o).2 ++ simpleSteps o) := by
  obtain ⟨dm', hdm', -, hk, heq⟩ := makeSteps_ok h
  cases hdm.symm.trans hdm'
  exact ⟨hk, heq⟩

theorem makeSteps_of_ok {o : Opts} {names names2 : List String} {dm : Nat}
    (hdm : demuxMode o = .ok dm) (hf : frontOk o = true) (hk : finalOk o dm = true) :
    makeSteps o names names2 =
      .ok (finalD o names names2 (o.pairFilter.getD .any) dm (front o).1 ((front o).2 ++ simpleSteps o)) := by
  rw [frontOk, Bool.and_eq_true] at hf
  rw [makeSteps_eq, if_pos hf.1, if_pos hf.2, stFinal_eq, hdm]
  exact if_pos hk
end Cutadapt.Steps
