import Cutadapt.Proofs.StepsFate
/-! `collectFiltered` (`Statistics.collect` of report.py): keys come from step identifiers; with distinct identifiers the
    values add up to the total of the per-step filter counters. -/
namespace Cutadapt.Steps
open Cutadapt

/-- one iteration of the loop in `collectFiltered` -/
def collectStep (s : Summary) (acc : List (String × Nat)) (p : Step × Nat) : List (String × Nat) :=
  match p.1.filterIdent with
  | some name =>
    let v := getCount p.2 s.filteredByStep
    if acc.any (fun q => q.1 == name) then acc.map (fun q => if q.1 == name then (name, v) else q) else acc ++ [(name, v)]
  | none => acc

theorem collectFiltered_eq (steps : List Step) (s : Summary) :
    collectFiltered steps s = steps.zipIdx.foldl (collectStep s) [] := by
  unfold collectFiltered
  congr 1

theorem collectStep_keys (s : Summary) (acc : List (String × Nat)) (p : Step × Nat) (k : String)
    (h : k ∈ (collectStep s acc p).map (·.1)) : k ∈ acc.map (·.1) ∨ p.1.filterIdent = some k := by
  unfold collectStep at h
  split at h
  · rename_i name hn
    simp only at h
    split at h
    · left
      simp only [List.map_map, List.mem_map, Function.comp] at h
      obtain ⟨q, hq, rfl⟩ := h
      by_cases hqn : q.1 == name
      · simp only [hqn, if_true]
        have : q.1 = name := by simpa using hqn
        exact List.mem_map.2 ⟨q, hq, this⟩
      · simp only [hqn]
        exact List.mem_map.2 ⟨q, hq, rfl⟩
    · simp only [List.map_append, List.map_cons, List.map_nil, List.mem_append, List.mem_singleton] at h
      rcases h with h | h
      · exact .inl h
      · exact .inr (by rw [hn, h])
  · exact .inl h

theorem foldl_collect_keys (s : Summary) (l : List (Step × Nat)) (acc : List (String × Nat)) (k : String)
    (h : k ∈ (l.foldl (collectStep s) acc).map (·.1)) : k ∈ acc.map (·.1) ∨ ∃ p ∈ l, p.1.filterIdent = some k := by
  induction l generalizing acc with
  | nil => exact .inl h
  | cons p l ih =>
    rw [List.foldl_cons] at h
    rcases ih _ h with h | ⟨q, hq, hk⟩
    · rcases collectStep_keys s acc p k h with h | h
      · exact .inl h
      · exact .inr ⟨p, by simp, h⟩
    · exact .inr ⟨q, by simp [hq], hk⟩

theorem collectFiltered_keys (steps : List Step) (s : Summary) (k : String)
    (h : k ∈ (collectFiltered steps s).map (·.1)) : ∃ st ∈ steps, st.filterIdent = some k := by
  rw [collectFiltered_eq] at h
  rcases foldl_collect_keys s _ [] k h with h | ⟨p, hp, hk⟩
  · simp at h
  · obtain ⟨st, i⟩ := p
    exact ⟨st, (List.mem_zipIdx hp).2.2 ▸ List.getElem_mem _, hk⟩

/-- the report entries when no identifier repeats -/
def entriesOf (s : Summary) (l : List (Step × Nat)) : List (String × Nat) :=
  l.filterMap (fun p => p.1.filterIdent.map (fun name => (name, getCount p.2 s.filteredByStep)))

theorem foldl_collect_nodup (s : Summary) (l : List (Step × Nat)) (acc : List (String × Nat))
    (hnd : ((acc ++ entriesOf s l).map (·.1)).Nodup) : l.foldl (collectStep s) acc = acc ++ entriesOf s l := by
  induction l generalizing acc with
  | nil => simp [entriesOf]
  | cons p l ih =>
    rw [List.foldl_cons]
    cases hp : p.1.filterIdent with
    | none =>
      rw [show entriesOf s (p :: l) = entriesOf s l by simp [entriesOf, hp]] at hnd ⊢
      rw [show collectStep s acc p = acc by simp [collectStep, hp]]
      exact ih acc hnd
    | some name =>
      rw [show entriesOf s (p :: l) = (name, getCount p.2 s.filteredByStep) :: entriesOf s l by simp [entriesOf, hp]] at hnd ⊢
      have hnew : acc.any (fun q => q.1 == name) = false := by
        rw [List.any_eq_false]
        intro q hq hqn
        rw [List.map_append, List.nodup_append] at hnd
        exact hnd.2.2 _ (List.mem_map.2 ⟨q, hq, rfl⟩) _ (.head _) (by simpa using hqn)
      rw [show collectStep s acc p = acc ++ [(name, getCount p.2 s.filteredByStep)] by simp [collectStep, hp, hnew],
        ih _ (by simpa using hnd), List.append_assoc]
      rfl

theorem collectFiltered_nodup (steps : List Step) (s : Summary) (hnd : (steps.filterMap Step.filterIdent).Nodup) :
    collectFiltered steps s = entriesOf s steps.zipIdx := by
  have : (entriesOf s steps.zipIdx).map (·.1) = steps.filterMap Step.filterIdent := by
    conv => rhs; rw [show steps = steps.zipIdx.map (·.1) by simp, List.filterMap_map]
    simp [entriesOf, List.map_filterMap, Function.comp_def]
  rw [collectFiltered_eq, foldl_collect_nodup s _ [] (by rwa [List.nil_append, this]), List.nil_append]

/-- indices of the steps that have a filter category, starting the numbering at `n` -/
def identIdx : List Step → Nat → List Nat
  | [], _ => []
  | st :: rest, n => (if st.filterIdent.isSome then [n] else []) ++ identIdx rest (n + 1)

theorem entriesOf_sum (s : Summary) (steps : List Step) (n : Nat) :
    ((entriesOf s (steps.zipIdx n)).map (·.2)).sum = ((identIdx steps n).map (fun i => getCount i s.filteredByStep)).sum := by
  induction steps generalizing n with
  | nil => simp [entriesOf, identIdx]
  | cons st rest ih =>
    have := ih (n + 1)
    simp only [entriesOf] at this
    cases hp : st.filterIdent <;>
      simp [entriesOf, List.zipIdx_cons, identIdx, hp, this]

theorem identIdx_indicator (steps : List Step) (n k : Nat) :
    ((identIdx steps n).map (fun j => if k = j then 1 else 0)).sum =
      if n ≤ k ∧ ∃ st, steps[k - n]? = some st ∧ st.filterIdent.isSome = true then 1 else 0 := by
  induction steps generalizing n with
  | nil => simp [identIdx]
  | cons st rest ih =>
    simp only [identIdx, List.map_append, List.sum_append, ih]
    by_cases hkn : k = n
    · subst hkn
      have : ¬ (k + 1 ≤ k) := by omega
      cases hp : st.filterIdent.isSome <;> simp [this, hp]
    · have h0 : ((if st.filterIdent.isSome = true then [n] else []).map (fun j => if k = j then 1 else 0)).sum = 0 := by
        split <;> simp [hkn]
      rw [h0, Nat.zero_add]
      by_cases hlt : n + 1 ≤ k
      · have e : k - n = (k - (n + 1)) + 1 := by omega
        have hle : n ≤ k := by omega
        simp only [hlt, hle, true_and, e, List.getElem?_cons_succ]
      · have : ¬ n ≤ k := by omega
        simp [hlt, this]

theorem total_sum_swap (J : List Nat) (c : Nat → Event → Nat) (evs : List Event) :
    (J.map (fun i => total (c i) evs)).sum = total (fun ev => (J.map (fun i => c i ev)).sum) evs := by
  induction J with
  | nil => simp only [List.map_nil, List.sum_nil]; exact (total_eq_zero (fun _ _ => rfl)).symm
  | cons j J ih =>
    simp only [List.map_cons, List.sum_cons, ih]
    rw [← total_add]

/-- With distinct identifiers, and every `filtered k` event pointing at a step that has a category, the figures of the
    report add up to the total of the per-step filter counters. -/
theorem collectFiltered_sum (steps : List Step) (evs : List Event)
    (hnd : (steps.filterMap Step.filterIdent).Nodup)
    (hidx : ∀ k, Event.filtered k ∈ evs → ∃ st, steps[k]? = some st ∧ st.filterIdent.isSome = true) :
    ((collectFiltered steps (summarize evs)).map (·.2)).sum = sumVals (summarize evs).filteredByStep := by
  rw [collectFiltered_nodup steps _ hnd, entriesOf_sum, (summarize_is evs).filteredTotal]
  have : ∀ i, getCount i (summarize evs).filteredByStep = total (evFilteredAt i) evs := (summarize_is evs).filteredAt
  simp only [this]
  rw [total_sum_swap]
  unfold total
  apply sum_map_congr
  intro ev hev
  cases ev with
  | filtered k =>
    simp only [evFilteredAt, evFiltered]
    rw [identIdx_indicator]
    simp [hidx k hev]
  | _ =>
    simp only [evFilteredAt, evFiltered]
    exact sum_map_zero _

theorem run_filtered_idx {f : α → Except Err (List Event)} {reads : List α} {evs : List Event} {steps : List Step}
    {l1 : α → Nat} {l2 : α → Option Nat}
    (hlog : ∀ r e, f r = .ok e → ∃ r1 r2, ReadLog steps (l1 r) (l2 r) r1 r2 e)
    (h : runReads f reads [] = (evs, none)) {k : Nat} (hk : Event.filtered k ∈ evs) :
    ∃ st, steps[k]? = some st ∧ st.filterIdent.isSome = true := by
  obtain ⟨r, -, hok, hkl⟩ := mem_run h hk
  obtain ⟨r1, r2, hlog⟩ := hlog r _ hok
  exact hlog.filtered_idx hkl
end Cutadapt.Steps
