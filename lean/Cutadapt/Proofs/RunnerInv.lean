import Cutadapt.Proofs.RunnerSums
import Cutadapt.Proofs.RunnerWriter
/-! Inductive invariants of the multi-core protocol (`Cutadapt/Runner.lean`), and lemmas about the notions they are stated with. -/
namespace Cutadapt.Runner

variable {Chunk Stats Fault : Type}

/-- results for chunk `i` in an outbox -/
def cntRes (i : Nat) : List (OutMsg Stats) → Nat
  | [] => 0
  | .result j _ :: r => (if j = i then 1 else 0) + cntRes i r
  | .done _ :: r => cntRes i r
  | .workerError :: r => cntRes i r

def cntProc (i : Nat) : Phase → Nat
  | .processing j => if j = i then 1 else 0
  | _ => 0

/-- occurrences of chunk `i` at worker `W`: waiting in the inbox, being processed, result waiting in the outbox,
    or lost because the worker raised while processing it -/
def cntWk (i : Nat) (W : Worker Stats) : Nat :=
  W.inbox.count (.chunk i) + cntProc i W.phase + cntRes i W.outbox + (if W.lost = some i then 1 else 0)

/-- messages other than the reader's error in an inbox -/
def nonErr : List InMsg → Nat
  | [] => 0
  | .readerError :: r => nonErr r
  | .chunk _ :: r => nonErr r + 1
  | .pill :: r => nonErr r + 1

/-- pills addressed to worker `W`: still in the inbox, or consumed -/
def pillWk (W : Worker Stats) : Nat :=
  W.inbox.count .pill + (if W.phase = .finished then 1 else 0)

def resultsOnly (l : List (OutMsg Stats)) : Prop := ∀ m, m ∈ l → ∃ i d, m = .result i d

/-- shape of a worker's outbox: results, followed by `done stats` once it has finished (until the main process has
    taken it and closed the connection) or by the error once it has failed -/
def OutboxOk (W : Worker Stats) (isOpen : Bool) : Prop :=
  match W.phase with
  | .finished => (isOpen = true → ∃ pre, W.outbox = pre ++ [.done W.stats] ∧ resultsOnly pre) ∧ (isOpen = false → W.outbox = [])
  | .failed => isOpen = true ∧ ∃ pre, W.outbox = pre ++ [.workerError] ∧ resultsOnly pre
  | _ => isOpen = true ∧ resultsOnly W.outbox

/-- requests on the queue plus answers in the inbox: exactly one while the worker is blocked in `recv`, none otherwise
    (a worker that failed on the reader's error may leave its last request behind) -/
def QOk (p : Phase) (k : Nat) : Prop :=
  match p with
  | .requested => k = 1
  | .failed => k ≤ 1
  | _ => k = 0

theorem QOk.le_one {p : Phase} {k : Nat} (h : QOk p k) : k ≤ 1 := by
  cases p with
  | requested => exact Nat.le_of_eq h
  | failed => exact h
  | _ => exact Nat.le_trans (Nat.le_of_eq h) (Nat.zero_le 1)

theorem cntRes_append (i : Nat) (a b : List (OutMsg Stats)) : cntRes i (a ++ b) = cntRes i a + cntRes i b := by
  induction a with
  | nil => exact (Nat.zero_add _).symm
  | cons m r ih => cases m <;> simp only [List.cons_append, cntRes, ih, Nat.add_assoc]

/-- a chunk at the head of an inbox counts like the same chunk being processed: receiving it keeps `cntWk` -/
theorem count_chunk_cons (k j : Nat) (l : List InMsg) :
    (InMsg.chunk k :: l).count (.chunk j) = l.count (.chunk j) + cntProc j (.processing k) := by
  simp only [List.count_cons, beq_iff_eq, InMsg.chunk.injEq, cntProc]

theorem nonErr_append (a b : List InMsg) : nonErr (a ++ b) = nonErr a + nonErr b := by
  induction a with
  | nil => exact (Nat.zero_add _).symm
  | cons m r ih => cases m <;> simp only [List.cons_append, nonErr, ih, Nat.add_right_comm]

theorem count_le_nonErr {m : InMsg} (hm : m ≠ .readerError) (l : List InMsg) : l.count m ≤ nonErr l := by
  induction l with
  | nil => exact Nat.le_refl _
  | cons x r ih =>
    rw [List.count_cons]
    cases x with
    | readerError => rw [if_neg (fun e => hm (beq_iff_eq.mp e).symm)]; exact ih
    | _ => exact Nat.add_le_add ih (by split <;> decide)

theorem resultsOnly_nil : resultsOnly ([] : List (OutMsg Stats)) := fun _ h => by simp at h

theorem resultsOnly_append {a b : List (OutMsg Stats)} (ha : resultsOnly a) (hb : resultsOnly b) : resultsOnly (a ++ b) := by
  intro m hm
  rcases List.mem_append.mp hm with h | h
  · exact ha m h
  · exact hb m h

theorem resultsOnly_single (i : Nat) (d : List Bytes) : resultsOnly ([.result i d] : List (OutMsg Stats)) := by
  intro m hm; simp at hm; exact ⟨i, d, hm⟩

theorem resultsOnly_tail {m : OutMsg Stats} {r : List (OutMsg Stats)} (h : resultsOnly (m :: r)) : resultsOnly r :=
  fun x hx => h x (List.mem_cons_of_mem _ hx)

theorem resultsOnly_snoc_eq_cons {pre rest : List (OutMsg Stats)} {x m : OutMsg Stats} (hres : resultsOnly pre)
    (h : pre ++ [x] = m :: rest) :
    (m = x ∧ rest = []) ∨ ((∃ i d, m = .result i d) ∧ ∃ pre', rest = pre' ++ [x] ∧ resultsOnly pre') := by
  rcases List.append_eq_cons_iff.mp h with ⟨_, e⟩ | ⟨pre', rfl, hr⟩
  · cases e; exact Or.inl ⟨rfl, rfl⟩
  · exact Or.inr ⟨hres m List.mem_cons_self, pre', hr, resultsOnly_tail hres⟩

theorem outboxOk_tail {W : Worker Stats} {o : Bool} {i : Nat} {d : List Bytes} {rest : List (OutMsg Stats)}
    (h : OutboxOk W o) (ho : W.outbox = .result i d :: rest) : OutboxOk { W with outbox := rest } o := by
  unfold OutboxOk at h ⊢
  split at h
  · rename_i hph
    simp only [hph]
    refine ⟨fun hop => ?_, fun hcl => ?_⟩
    · obtain ⟨pre, hpre, hres⟩ := h.1 hop
      obtain ⟨e, _⟩ | ⟨_, pre', hr, hres'⟩ := resultsOnly_snoc_eq_cons hres (hpre.symm.trans ho)
      · cases e
      · exact ⟨pre', hr, hres'⟩
    · have := h.2 hcl; rw [ho] at this; cases this
  · rename_i hph
    simp only [hph]
    obtain ⟨hop, pre, hpre, hres⟩ := h
    obtain ⟨e, _⟩ | ⟨_, pre', hr, hres'⟩ := resultsOnly_snoc_eq_cons hres (hpre.symm.trans ho)
    · cases e
    · exact ⟨hop, pre', hr, hres'⟩
  · rename_i hph1 hph2
    rw [ho] at h
    exact ⟨h.1, resultsOnly_tail h.2⟩

/-- a message other than a result at the head of an open outbox is the whole outbox: the worker's last word -/
theorem outboxOk_head {W : Worker Stats} {o : Bool} {m : OutMsg Stats} {rest : List (OutMsg Stats)}
    (h : OutboxOk W o) (hop : o = true) (ho : W.outbox = m :: rest) (hm : ∀ i d, m ≠ .result i d) :
    rest = [] ∧ ((W.phase = .finished ∧ m = .done W.stats) ∨ (W.phase = .failed ∧ m = .workerError)) := by
  unfold OutboxOk at h
  split at h
  · rename_i hph
    obtain ⟨pre, hpre, hres⟩ := h.1 hop
    obtain ⟨e, hr⟩ | ⟨⟨i, d, e⟩, _⟩ := resultsOnly_snoc_eq_cons hres (hpre.symm.trans ho)
    · exact ⟨hr, Or.inl ⟨hph, e⟩⟩
    · exact absurd e (hm i d)
  · rename_i hph
    obtain ⟨_, pre, hpre, hres⟩ := h
    obtain ⟨e, hr⟩ | ⟨⟨i, d, e⟩, _⟩ := resultsOnly_snoc_eq_cons hres (hpre.symm.trans ho)
    · exact ⟨hr, Or.inr ⟨hph, e⟩⟩
    · exact absurd e (hm i d)
  · obtain ⟨i, d, e⟩ := h.2 m (ho ▸ List.mem_cons_self)
    exact absurd e (hm i d)

theorem outboxOk_done {W : Worker Stats} {o : Bool} {st : Stats} {rest : List (OutMsg Stats)}
    (h : OutboxOk W o) (hop : o = true) (ho : W.outbox = .done st :: rest) : W.phase = .finished ∧ rest = [] ∧ st = W.stats := by
  obtain ⟨hr, ⟨hph, e⟩ | ⟨_, e⟩⟩ := outboxOk_head h hop ho (fun _ _ => nofun)
  · cases e; exact ⟨hph, hr, rfl⟩
  · cases e

structure RunInv (cfg : Config Chunk Stats Fault) (s : State Stats) : Prop where
  next_le : s.next ≤ cfg.chunks.length
  pills_pos : 0 < s.pills → s.next = cfg.chunks.length ∧ cfg.readerFault = false
  rfailed : s.rfailed = true → cfg.readerFault = true ∧ s.next = cfg.chunks.length
  /-- `each_chunk_once` -/
  once : ∀ i, sumW cfg.nWorkers (fun w => cntWk i (s.workers w)) + s.received.count i = if i < s.next then 1 else 0
  /-- a worker is on the queue or has an answer waiting exactly while it is blocked in `recv` -/
  queue : ∀ w, w < cfg.nWorkers → QOk (s.workers w).phase (s.queue.count w + nonErr (s.workers w).inbox)
  queue_lt : ∀ w, w ∈ s.queue → w < cfg.nWorkers
  pillsum : s.pills = sumW cfg.nWorkers (fun w => pillWk (s.workers w))
  rerr : s.rfailed = true → ∀ w, w < cfg.nWorkers → (s.workers w).phase = .failed ∨ InMsg.readerError ∈ (s.workers w).inbox
  outbox : ∀ w, w < cfg.nWorkers → OutboxOk (s.workers w) (s.isOpen w)
  results : ∀ w, w < cfg.nWorkers → ∀ i d, OutMsg.result i d ∈ (s.workers w).outbox → ∃ st, outOf cfg i = some (d, st)
  lost : ∀ w, w < cfg.nWorkers → (s.workers w).phase ≠ .failed → (s.workers w).lost = none

/-- holds in every reachable state, terminal or not -/
structure SafeInv (cfg : Config Chunk Stats Fault) (s : State Stats) : Prop where
  writers : ∀ f, WInv (fun i => outData cfg i f) (s.writers f) (fun i => i ∈ s.received)
  recvOk : ∀ i, i ∈ s.received → (outOf cfg i).isSome = true

@[simp] theorem setW_workers_same (s : State Stats) (w : Nat) (W : Worker Stats) : (s.setW w W).workers w = W :=
  if_pos rfl

theorem setW_workers_ne (s : State Stats) {v w : Nat} (W : Worker Stats) (h : v ≠ w) : (s.setW w W).workers v = s.workers v :=
  if_neg h

@[simp] theorem setW_next (s : State Stats) (w : Nat) (W : Worker Stats) : (s.setW w W).next = s.next := rfl
@[simp] theorem setW_pills (s : State Stats) (w : Nat) (W : Worker Stats) : (s.setW w W).pills = s.pills := rfl
@[simp] theorem setW_rfailed (s : State Stats) (w : Nat) (W : Worker Stats) : (s.setW w W).rfailed = s.rfailed := rfl
@[simp] theorem setW_queue (s : State Stats) (w : Nat) (W : Worker Stats) : (s.setW w W).queue = s.queue := rfl
@[simp] theorem setW_isOpen (s : State Stats) (w : Nat) (W : Worker Stats) : (s.setW w W).isOpen = s.isOpen := rfl
@[simp] theorem setW_writers (s : State Stats) (w : Nat) (W : Worker Stats) : (s.setW w W).writers = s.writers := rfl
@[simp] theorem setW_received (s : State Stats) (w : Nat) (W : Worker Stats) : (s.setW w W).received = s.received := rfl
@[simp] theorem setW_mstats (s : State Stats) (w : Nat) (W : Worker Stats) : (s.setW w W).mstats = s.mstats := rfl
@[simp] theorem setW_outcome (s : State Stats) (w : Nat) (W : Worker Stats) : (s.setW w W).outcome = s.outcome := rfl

theorem sumW_setW (F : Worker Stats → Nat) (s : State Stats) {n w : Nat} (hw : w < n) (W : Worker Stats) :
    sumW n (fun v => F ((s.setW w W).workers v)) + F (s.workers w) = sumW n (fun v => F (s.workers v)) + F W := by
  have := sumW_update (n := n) (w := w) (f := fun v => F (s.workers v)) (g := fun v => F ((s.setW w W).workers v)) hw
    (fun v hv => by simp only [setW_workers_ne s W hv])
  simpa using this

theorem runInv_init (cfg : Config Chunk Stats Fault) : RunInv cfg (init cfg) := by
  -- every worker of `init cfg` is the same fresh one: every list is empty, every counter 0
  have hzero : ∀ F : Worker Stats → Nat, (∀ v, F ((init cfg).workers v) = 0) →
      sumW cfg.nWorkers (fun w => F ((init cfg).workers w)) = 0 :=
    fun F h => (sumW_eq_const 0 (fun v _ => h v)).trans (Nat.mul_zero _)
  refine {
    next_le := Nat.zero_le _
    pills_pos := fun h => nomatch h
    rfailed := fun h => nomatch h
    once := fun i => ?_
    queue := fun w _ => rfl
    queue_lt := fun w h => nomatch h
    pillsum := (hzero pillWk fun _ => rfl).symm
    rerr := fun h => nomatch h
    outbox := fun w _ => ⟨rfl, resultsOnly_nil⟩
    results := fun w _ i d h => nomatch h
    lost := fun w _ _ => rfl }
  rw [hzero (cntWk i) fun _ => rfl]
  exact (if_neg (Nat.not_lt_zero i)).symm

theorem safeInv_init (cfg : Config Chunk Stats Fault) : SafeInv cfg (init cfg) := by
  refine ⟨fun f => ?_, fun i h => by simp [init] at h⟩
  exact (WInv.init _).congr (fun i => by simp [init])

end Cutadapt.Runner
