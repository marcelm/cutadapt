import Cutadapt.Proofs.ModsStages
import Cutadapt.Proofs.StepsCore
/-! Paired-end modifiers: `PairedEndModifierWrapper`, `PairedReverseComplementer`, and the paired modifier list as a whole.
    Core Lean only. -/
namespace Cutadapt
open Cutadapt.Adapters Cutadapt.Qualtrim

/-- one side of `PairedEndModifierWrapper.__call__`: a mate whose modifier is `None` passes through untouched -/
def applySOpt (names : Names) (side : Nat) (m : Option SMod) (r : Read) (i : Info) : Except Err (Read × Info × List Event) :=
  match m with
  | some m => applyS names side m r i
  | none => .ok (r, i, [])

theorem applyP_wrap (ads1 ads2 : List Matchable) (m1 m2 : Option SMod) (r1 r2 : Read) (i1 i2 : Info) :
    applyP ads1 ads2 (.wrap m1 m2) (r1, r2) (i1, i2) =
      (do let (r1', i1', e1) ← applySOpt (namesOf ads1) 0 m1 r1 i1
          let (r2', i2', e2) ← applySOpt (namesOf ads2) 1 m2 r2 i2
          pure ((r1', r2'), (i1', i2'), e1 ++ e2)) := by
  cases m1 <;> cases m2 <;> rfl

theorem applySOpt_segRel {s : Bool} {names : Names} {side : Nat} {m : Option SMod} (hok : ∀ x ∈ m, x.OK s)
    (hrc : ∀ x ∈ m, x.isRevcomp = false) {r r' : Read} {i i' : Info} {evs : List Event} (hq : QualOK r)
    (h : applySOpt names side m r i = .ok (r', i', evs)) :
    SegRel s ((m.map SMod.capBases).getD []) r r' ∧ i'.isRc = i.isRc := by
  cases m with
  | none =>
    simp only [applySOpt, Except.ok.injEq, Prod.mk.injEq] at h
    obtain ⟨rfl, rfl, _⟩ := h
    exact ⟨(SameSeg.refl _).segRel s, rfl⟩
  | some x => exact applyS_segRel (hok x rfl) (hrc x rfl) hq h

/-- **`PairedEndModifierWrapper`**: each mate is treated by its own modifier, independently of the other -/
theorem applyP_wrap_segRel {s : Bool} {ads1 ads2 : List Matchable} {m1 m2 : Option SMod}
    (hok1 : ∀ x ∈ m1, x.OK s) (hok2 : ∀ x ∈ m2, x.OK s)
    (hrc1 : ∀ x ∈ m1, x.isRevcomp = false) (hrc2 : ∀ x ∈ m2, x.isRevcomp = false)
    {r1 r2 o1 o2 : Read} {i1 i2 j1 j2 : Info} {evs : List Event} (hq1 : QualOK r1) (hq2 : QualOK r2)
    (h : applyP ads1 ads2 (.wrap m1 m2) (r1, r2) (i1, i2) = .ok ((o1, o2), (j1, j2), evs)) :
    SegRel s ((m1.map SMod.capBases).getD []) r1 o1 ∧ SegRel s ((m2.map SMod.capBases).getD []) r2 o2 ∧
    j1.isRc = i1.isRc ∧ j2.isRc = i2.isRc := by
  rw [applyP_wrap] at h
  obtain ⟨⟨a, b, c⟩, ha, h⟩ := Steps.bind_ok h
  obtain ⟨⟨a', b', c'⟩, hb, h⟩ := Steps.bind_ok h
  cases h
  obtain ⟨x1, x2⟩ := applySOpt_segRel hok1 hrc1 hq1 ha
  obtain ⟨y1, y2⟩ := applySOpt_segRel hok2 hrc2 hq2 hb
  exact ⟨x1, y1, x2, y2⟩

theorem cutterOpt_none_matches {r t x : Read} {m : List AnyMatch} (h : cutterOpt none r = .ok (t, m, x)) :
    t = r ∧ m = [] ∧ x = r := by
  simp only [cutterOpt, Except.ok.injEq, Prod.mk.injEq] at h
  exact ⟨h.1.symm, h.2.1.symm, h.2.2.symm⟩

/-- a missing cutter reports no match: the `AttributeError` of `PairedReverseComplementer.__call__` is dead code -/
theorem cutterOpt_missing {c : Option Cutter} {r t x : Read} {m : List AnyMatch} (h : cutterOpt c r = .ok (t, m, x)) :
    (!m.isEmpty && c.isNone) = false := by
  cases c with
  | some _ => exact Bool.and_false _
  | none =>
    rw [(cutterOpt_none_matches h).2.1]
    rfl

theorem cutterOpt_segRel {s : Bool} {c : Option Cutter} (hok : ∀ c' ∈ c, CutterOK s c') {r t x : Read}
    {m : List AnyMatch} (h : cutterOpt c r = .ok (t, m, x)) : SegRel s [] r t ∧ t.name = r.name := by
  cases c with
  | none =>
    obtain ⟨rfl, _, _⟩ := cutterOpt_none_matches h
    exact ⟨(SameSeg.refl _).segRel s, rfl⟩
  | some c' => exact matchAndTrim_segRel (hok c' rfl) h

theorem applySOpt_adapters {names : Names} {side : Nat} {c : Option Cutter} {f : Bool} {r t x : Read} {i : Info}
    {m : List AnyMatch} (h : cutterOpt c r = .ok (t, m, x)) :
    ∃ j, applySOpt names side (c.map (SMod.adapters · f)) r i = .ok (t, j, matchedEvents side m false) ∧
      j.mts = i.mts ++ m ∧ j.isRc = i.isRc := by
  cases c with
  | none =>
    obtain ⟨rfl, rfl, _⟩ := cutterOpt_none_matches h
    exact ⟨i, rfl, (List.append_nil _).symm, rfl⟩
  | some c =>
    have h' : matchAndTrim c r = .ok (t, m, x) := h
    refine ⟨{ originalAfter f i x with mts := (originalAfter f i x).mts ++ m }, ?_, ?_, originalAfter_isRc f i x⟩
    · simp only [applySOpt, Option.map_some]
      rw [applyS_adapters, h']
    · rw [originalAfter_mts]

/-- some cutter of the pair lower-cases. `match_and_trim` then upper-cases its argument in place, and
    `PairedReverseComplementer.__call__` hands each mate to every cutter there is (directly or in the swapped run), so
    both mates end up upper-cased: `upperIf (pairLower c1 c2)` is what `applyP` does to them first. -/
def pairLower (c1 c2 : Option Cutter) : Bool :=
  (c1.map (·.action == .lowercase)).getD false || (c2.map (·.action == .lowercase)).getD false
def upperIf (b : Bool) (r : Read) : Read := if b then { r with seq := upperBytes r.seq } else r
/-- `use_reverse_complement`: the swapped run found something and its summed score is strictly higher -/
def pairUseRc (m1 m2 m1s m2s : List AnyMatch) : Bool :=
  (!m1s.isEmpty || !m2s.isEmpty) && scoreSum m1s + scoreSum m2s > scoreSum m1 + scoreSum m2

/-- `PairedReverseComplementer.__call__` after the (possible) in-place upper-casing of the two reads -/
def pairedRevcompCore (c1 c2 : Option Cutter) (suffix first1 first2 : Bool) (r1 r2 : Read) (i1 i2 : Info) :
    Except Err ((Read × Read) × (Info × Info) × List Event) := do
  let (t1, m1, _) ← cutterOpt c1 r1
  let (t2, m2, _) ← cutterOpt c2 r2
  let (t1s, m1s, _) ← cutterOpt c1 r2
  let (t2s, m2s, _) ← cutterOpt c2 r1
  let i1 := originalAfter first1 i1 r1
  let i2 := originalAfter first2 i2 r2
  let useRc := pairUseRc m1 m2 m1s m2s
  let (o1, o2, n1, n2) := if useRc then (t1s, t2s, m1s, m2s) else (t1, t2, m1, m2)
  let o1 := if useRc && suffix then { o1 with name := o1.name ++ bytesOfStr " rc" } else o1
  let o2 := if useRc && suffix then { o2 with name := o2.name ++ bytesOfStr " rc" } else o2
  if (!n1.isEmpty && c1.isNone) || (!n2.isEmpty && c2.isNone) then throw .attribute else
  pure ((o1, o2),
    ({ i1 with isRc := some useRc, mts := i1.mts ++ n1 }, { i2 with isRc := some useRc, mts := i2.mts ++ n2 }),
    (if useRc then [Event.revComp] else []) ++ matchedEvents 0 n1 useRc ++ matchedEvents 1 n2 useRc)

theorem applyP_pairedRevcomp (ads1 ads2 : List Matchable) (c1 c2 : Option Cutter) (suffix first1 first2 : Bool)
    (r1 r2 : Read) (i1 i2 : Info) :
    applyP ads1 ads2 (.pairedRevcomp c1 c2 suffix first1 first2) (r1, r2) (i1, i2) =
      pairedRevcompCore c1 c2 suffix first1 first2 (upperIf (pairLower c1 c2) r1) (upperIf (pairLower c1 c2) r2) i1 i2 := rfl

theorem upperBytes_idem (xs : Bytes) : upperBytes (upperBytes xs) = upperBytes xs := by
  simp [upperBytes, asciiUpper_idem]

/-- the object handed to a cutter is left with the sequence it already had once the pair has been upper-cased -/
theorem cutterOpt_readAfter_seq (c1 c2 c : Option Cutter) (hc : c = c1 ∨ c = c2) (r t x : Read) (m : List AnyMatch)
    (h : cutterOpt c (upperIf (pairLower c1 c2) r) = .ok (t, m, x)) : x.seq = (upperIf (pairLower c1 c2) r).seq := by
  cases c with
  | none => rw [(cutterOpt_none_matches h).2.2]
  | some c' =>
    rw [(matchAndTrim_matches h).2]
    unfold searchRead
    split
    · rename_i hl
      have hL : pairLower c1 c2 = true := by
        rcases hc with e | e <;> simp [pairLower, ← e, hl]
      simp [upperIf, hL, upperBytes_idem]
    · rfl

theorem upperIf_segRel (s : Bool) (L : Bool) (hL : s = true → L = false) (r : Read) : SegRel s [] r (upperIf L r) := by
  cases L with
  | false => exact (SameSeg.refl r).segRel s
  | true =>
    cases s with
    | true => simp at hL
    | false => exact SegRel.of_marked (by simp [upperIf, upperBytes]) rfl

theorem cutterOK_not_lowercase (c : Cutter) (h : CutterOK true c) : (c.action == Action.lowercase) = false := by
  rcases h with h | ⟨h, _⟩
  · rcases h with e | e | e | e <;> simp [e, Action.beq_eq_decide]
  · simp at h

theorem pairLower_false {c1 c2 : Option Cutter} (h1 : ∀ c ∈ c1, CutterOK true c) (h2 : ∀ c ∈ c2, CutterOK true c) :
    pairLower c1 c2 = false := by
  unfold pairLower
  cases c1 <;> cases c2 <;> simp [cutterOK_not_lowercase, h1, h2]

/-- what the four `match_and_trim` calls of `PairedReverseComplementer.__call__` return decides everything -/
theorem pairedRevcompCore_ok {c1 c2 : Option Cutter} {suffix first1 first2 : Bool} {r1 r2 : Read} {i1 i2 : Info}
    {t1 t2 t1s t2s x1 x2 x3 x4 : Read} {m1 m2 m1s m2s : List AnyMatch}
    (h1 : cutterOpt c1 r1 = .ok (t1, m1, x1)) (h2 : cutterOpt c2 r2 = .ok (t2, m2, x2))
    (h3 : cutterOpt c1 r2 = .ok (t1s, m1s, x3)) (h4 : cutterOpt c2 r1 = .ok (t2s, m2s, x4)) :
    pairedRevcompCore c1 c2 suffix first1 first2 r1 r2 i1 i2 =
      if pairUseRc m1 m2 m1s m2s then
        .ok ((if suffix then { t1s with name := t1s.name ++ bytesOfStr " rc" } else t1s,
              if suffix then { t2s with name := t2s.name ++ bytesOfStr " rc" } else t2s),
             ({ originalAfter first1 i1 r1 with isRc := some true, mts := (originalAfter first1 i1 r1).mts ++ m1s },
              { originalAfter first2 i2 r2 with isRc := some true, mts := (originalAfter first2 i2 r2).mts ++ m2s }),
             Event.revComp :: (matchedEvents 0 m1s true ++ matchedEvents 1 m2s true))
      else
        .ok ((t1, t2),
             ({ originalAfter first1 i1 r1 with isRc := some false, mts := (originalAfter first1 i1 r1).mts ++ m1 },
              { originalAfter first2 i2 r2 with isRc := some false, mts := (originalAfter first2 i2 r2).mts ++ m2 }),
             matchedEvents 0 m1 false ++ matchedEvents 1 m2 false) := by
  unfold pairedRevcompCore
  rw [h1, h2, h3, h4]
  simp only [bind, Except.bind, pure, Except.pure]
  cases pairUseRc m1 m2 m1s m2s with
  | true =>
    simp only [↓reduceIte, cutterOpt_missing h3, cutterOpt_missing h4, Bool.or_self, Bool.false_eq_true]
    rfl
  | false =>
    simp only [↓reduceIte, cutterOpt_missing h1, cutterOpt_missing h2, Bool.or_self, Bool.false_eq_true]
    rfl

theorem pairedRevcompCore_cases (c1 c2 : Option Cutter) (suffix first1 first2 : Bool) (r1 r2 : Read) (i1 i2 : Info) :
    (∃ e, pairedRevcompCore c1 c2 suffix first1 first2 r1 r2 i1 i2 = .error e ∧
      (cutterOpt c1 r1 = .error e ∨ cutterOpt c2 r2 = .error e ∨ cutterOpt c1 r2 = .error e ∨ cutterOpt c2 r1 = .error e)) ∨
    ∃ v1 v2 v3 v4, cutterOpt c1 r1 = .ok v1 ∧ cutterOpt c2 r2 = .ok v2 ∧ cutterOpt c1 r2 = .ok v3 ∧ cutterOpt c2 r1 = .ok v4 := by
  -- once a call is known to fail, the `do` block reduces to that error
  unfold pairedRevcompCore
  cases h1 : cutterOpt c1 r1 with
  | error e => exact .inl ⟨e, rfl, .inl rfl⟩
  | ok v1 =>
    cases h2 : cutterOpt c2 r2 with
    | error e => exact .inl ⟨e, rfl, .inr (.inl rfl)⟩
    | ok v2 =>
      cases h3 : cutterOpt c1 r2 with
      | error e => exact .inl ⟨e, rfl, .inr (.inr (.inl rfl))⟩
      | ok v3 =>
        cases h4 : cutterOpt c2 r1 with
        | error e => exact .inl ⟨e, rfl, .inr (.inr (.inr rfl))⟩
        | ok v4 => exact .inr ⟨v1, v2, v3, v4, rfl, rfl, rfl, rfl⟩

/-- `PairedReverseComplementer` never raises on its own: an error is an error of one of the four calls -/
theorem pairedRevcompCore_error {c1 c2 : Option Cutter} {suffix first1 first2 : Bool} {r1 r2 : Read} {i1 i2 : Info}
    {e : Err} (h : pairedRevcompCore c1 c2 suffix first1 first2 r1 r2 i1 i2 = .error e) :
    cutterOpt c1 r1 = .error e ∨ cutterOpt c2 r2 = .error e ∨ cutterOpt c1 r2 = .error e ∨ cutterOpt c2 r1 = .error e := by
  rcases pairedRevcompCore_cases c1 c2 suffix first1 first2 r1 r2 i1 i2 with
    ⟨e', he, hor⟩ | ⟨⟨t1, m1, x1⟩, ⟨t2, m2, x2⟩, ⟨t1s, m1s, x3⟩, ⟨t2s, m2s, x4⟩, h1, h2, h3, h4⟩
  · rw [he] at h
    cases h
    exact hor
  · rw [pairedRevcompCore_ok h1 h2 h3 h4] at h
    generalize pairUseRc m1 m2 m1s m2s = u at h
    cases u <;> cases h

/-- **Paired `--revcomp`**: the output mates are slices of (R1, R2), or of (R2, R1) when the swapped pair was chosen -/
theorem applyP_pairedRevcomp_segRel {s : Bool} {ads1 ads2 : List Matchable} {c1 c2 : Option Cutter}
    {sfx first1 first2 : Bool} (hok1 : ∀ c ∈ c1, CutterOK s c) (hok2 : ∀ c ∈ c2, CutterOK s c)
    {r1 r2 o1 o2 : Read} {i1 i2 j1 j2 : Info} {evs : List Event}
    (h : applyP ads1 ads2 (.pairedRevcomp c1 c2 sfx first1 first2) (r1, r2) (i1, i2) = .ok ((o1, o2), (j1, j2), evs)) :
    (j1.isRc = some true ∧ j2.isRc = some true ∧ SegRel s [] r2 o1 ∧ SegRel s [] r1 o2) ∨
    (j1.isRc = some false ∧ j2.isRc = some false ∧ SegRel s [] r1 o1 ∧ SegRel s [] r2 o2) := by
  rw [applyP_pairedRevcomp] at h
  have hL : s = true → pairLower c1 c2 = false := by
    intro hs
    subst hs
    exact pairLower_false hok1 hok2
  have u1 := upperIf_segRel s _ hL r1
  have u2 := upperIf_segRel s _ hL r2
  generalize upperIf (pairLower c1 c2) r1 = r1' at h u1
  generalize upperIf (pairLower c1 c2) r2 = r2' at h u2
  rcases pairedRevcompCore_cases c1 c2 sfx first1 first2 r1' r2' i1 i2 with
    ⟨e, he, _⟩ | ⟨⟨t1, m1, x1⟩, ⟨t2, m2, x2⟩, ⟨t1s, m1s, x3⟩, ⟨t2s, m2s, x4⟩, h1, h2, h3, h4⟩
  · rw [he] at h
    cases h
  · rw [pairedRevcompCore_ok h1 h2 h3 h4] at h
    cases hu : pairUseRc m1 m2 m1s m2s with
    | true =>
      rw [hu] at h
      cases h
      exact .inl ⟨rfl, rfl, (u2.trans (cutterOpt_segRel hok1 h3).1).trans (.of_rename ..),
        (u1.trans (cutterOpt_segRel hok2 h4).1).trans (.of_rename ..)⟩
    | false =>
      rw [hu] at h
      cases h
      exact .inr ⟨rfl, rfl, u1.trans (cutterOpt_segRel hok1 h1).1, u2.trans (cutterOpt_segRel hok2 h2).1⟩

/-- which paired modifiers the pipeline theorem covers -/
def PMod.OK (s : Bool) : PMod → Prop
  | .wrap m1 m2 => (∀ x ∈ m1, x.OK s ∧ x.isRevcomp = false) ∧ (∀ x ∈ m2, x.OK s ∧ x.isRevcomp = false)
  | .pairedRevcomp c1 c2 _ _ _ => (∀ c ∈ c1, CutterOK s c) ∧ (∀ c ∈ c2, CutterOK s c)
  | .pairAdapters _ _ action _ _ => action = .trim ∨ action = .retain ∨ action = .crop ∨ action = .none
  | .pairedRename _ _ => True

def PMod.isRevcomp : PMod → Bool
  | .pairedRevcomp _ _ _ _ _ => true
  | _ => false

theorem PMod.eq_pairedRevcomp_of_isRevcomp {m : PMod} (h : m.isRevcomp = true) :
    ∃ c1 c2 sfx f1 f2, m = .pairedRevcomp c1 c2 sfx f1 f2 := by
  cases m with
  | pairedRevcomp c1 c2 sfx f1 f2 => exact ⟨c1, c2, sfx, f1, f2, rfl⟩
  | _ => cases h

def pairedRevcompStages (mods : List PMod) : Nat := (mods.filter PMod.isRevcomp).length

/-- both mates are (zero-capped, possibly marked) slices of the corresponding input mates -/
def PairRel (s : Bool) (r o : Read × Read) : Prop :=
  (∃ bs, SegRel s bs r.1 o.1) ∧ (∃ bs, SegRel s bs r.2 o.2)

theorem PairRel.trans {s : Bool} {a b c : Read × Read} (h1 : PairRel s a b) (h2 : PairRel s b c) : PairRel s a c := by
  obtain ⟨⟨b1, x1⟩, ⟨b2, x2⟩⟩ := h1
  obtain ⟨⟨c1, y1⟩, ⟨c2, y2⟩⟩ := h2
  exact ⟨⟨_, x1.trans y1⟩, ⟨_, x2.trans y2⟩⟩

theorem PairRel.swap_trans {s : Bool} {a b c : Read × Read} (h1 : PairRel s a b) (h2 : PairRel s (b.2, b.1) c) :
    PairRel s (a.2, a.1) c := by
  obtain ⟨⟨b1, x1⟩, ⟨b2, x2⟩⟩ := h1
  obtain ⟨⟨c1, y1⟩, ⟨c2, y2⟩⟩ := h2
  exact ⟨⟨_, x2.trans y1⟩, ⟨_, x1.trans y2⟩⟩

theorem PairRel.refl (s : Bool) (r : Read × Read) : PairRel s r r := ⟨⟨[], .refl s _⟩, ⟨[], .refl s _⟩⟩

theorem PairRel.qualOK {s : Bool} {r o : Read × Read} (h : PairRel s r o) (h1 : QualOK r.1) (h2 : QualOK r.2) :
    QualOK o.1 ∧ QualOK o.2 := by
  obtain ⟨⟨_, a⟩, ⟨_, b⟩⟩ := h
  exact ⟨a.qualOK h1, b.qualOK h2⟩

/-- `applyP_pairedRevcomp_segRel` with the order of the mates read off the flag -/
theorem applyP_pairedRevcomp_pairRel {s : Bool} {ads1 ads2 : List Matchable} {c1 c2 : Option Cutter}
    {sfx first1 first2 : Bool} (hok1 : ∀ c ∈ c1, CutterOK s c) (hok2 : ∀ c ∈ c2, CutterOK s c)
    {r o : Read × Read} {i j : Info × Info} {evs : List Event}
    (h : applyP ads1 ads2 (.pairedRevcomp c1 c2 sfx first1 first2) r i = .ok (o, j, evs)) :
    PairRel s (if j.1.isRc = some true then (r.2, r.1) else r) o := by
  rcases applyP_pairedRevcomp_segRel hok1 hok2 h with ⟨x1, _, x3, x4⟩ | ⟨x1, _, x3, x4⟩
  · rw [x1, if_pos rfl]
    exact ⟨⟨[], x3⟩, ⟨[], x4⟩⟩
  · rw [x1, if_neg (by simp)]
    exact ⟨⟨[], x3⟩, ⟨[], x4⟩⟩

/-- one side of `PairedAdapterCutter.__call__` is the action of `match_and_trim` on the one match -/
theorem pairActionRead_eq (action : Action) (read : Read) (m : AnyMatch) :
    pairActionRead action read m =
      (actionResult ⟨[], 1, action⟩ (searchRead ⟨[], 1, action⟩ read) (m.trimmed (searchRead ⟨[], 1, action⟩ read)) [m] m).map
        fun x => (x.1, x.2.2) := by
  unfold pairActionRead actionResult searchRead
  cases action <;> first | rfl | (cases m <;> rfl)

theorem pairActionRead_sameSeg {action : Action}
    (ha : action = .trim ∨ action = .retain ∨ action = .crop ∨ action = .none) {read o ra : Read} {m : AnyMatch}
    (h : pairActionRead action read m = .ok (o, ra)) : SameSeg read o := by
  rw [pairActionRead_eq, searchRead_of_ne ⟨[], 1, action⟩ read (by rcases ha with e | e | e | e <;> simp [e])] at h
  cases hr : actionResult ⟨[], 1, action⟩ read (m.trimmed read) [m] m with
  | error e =>
    rw [hr] at h
    cases h
  | ok v =>
    rw [hr] at h
    cases h
    exact (actionResult_slice ha ⟨m.trimmed_sameSeg read, m.trimmed_name read⟩ hr).1

/-- every paired modifier but the reverse-complementing one relates each mate to itself and keeps the flag -/
theorem applyP_pairRel {s : Bool} {ads1 ads2 : List Matchable} {m : PMod} (hok : m.OK s) (hrc : m.isRevcomp = false)
    {r o : Read × Read} {i j : Info × Info} {evs : List Event} (hq1 : QualOK r.1) (hq2 : QualOK r.2)
    (h : applyP ads1 ads2 m r i = .ok (o, j, evs)) : PairRel s r o ∧ j.1.isRc = i.1.isRc := by
  obtain ⟨r1, r2⟩ := r
  obtain ⟨o1, o2⟩ := o
  obtain ⟨i1, i2⟩ := i
  obtain ⟨j1, j2⟩ := j
  cases m with
  | wrap m1 m2 =>
    obtain ⟨a, b, c, _⟩ := applyP_wrap_segRel (fun x hx => (hok.1 x hx).1) (fun x hx => (hok.2 x hx).1) (fun x hx => (hok.1 x hx).2) (fun x hx => (hok.2 x hx).2) hq1 hq2 h
    exact ⟨⟨⟨_, a⟩, ⟨_, b⟩⟩, c⟩
  | pairedRevcomp _ _ _ _ _ => cases hrc
  | pairAdapters a1 a2 action f1 f2 =>
    simp only [applyP] at h
    split at h
    · cases h
      exact ⟨.refl s _, rfl⟩
    · obtain ⟨⟨_, _⟩, h1, h⟩ := Steps.bind_ok h
      obtain ⟨⟨_, _⟩, h2, h⟩ := Steps.bind_ok h
      cases h
      refine ⟨⟨⟨[], (pairActionRead_sameSeg hok h1).segRel s⟩, ⟨[], (pairActionRead_sameSeg hok h2).segRel s⟩⟩, ?_⟩
      simp only
      split <;> rfl
  | pairedRename t1 t2 =>
    simp only [applyP] at h
    split at h
    · cases h
    · split at h
      · split at h
        · cases h
        · cases h
          exact ⟨⟨⟨[], .of_eq rfl rfl⟩, ⟨[], .of_eq rfl rfl⟩⟩, rfl⟩
      · cases h
      · cases h

/-- a successful run of a non-empty list: the first modifier succeeds and the rest runs on what it returns -/
theorem runModsP_cons_ok {ads1 ads2 : List Matchable} {m : PMod} {ms : List PMod} {r : Read × Read} {i : Info × Info}
    {evs : List Event} {out : (Read × Read) × (Info × Info) × List Event}
    (h : runModsP ads1 ads2 (m :: ms) r i evs = .ok out) :
    ∃ r1 i1 e1, applyP ads1 ads2 m r i = .ok (r1, i1, e1) ∧ runModsP ads1 ads2 ms r1 i1 (evs ++ e1) = .ok out := by
  simp only [runModsP] at h
  split at h
  · cases h
  · rename_i r1 i1 e1 h1
    exact ⟨r1, i1, e1, h1, h⟩

theorem runModsP_norc {s : Bool} {ads1 ads2 : List Matchable} {mods : List PMod} (hok : ∀ m ∈ mods, m.OK s)
    (hrc : ∀ m ∈ mods, m.isRevcomp = false) {r o : Read × Read} {i j : Info × Info} {evs evs' : List Event}
    (hq1 : QualOK r.1) (hq2 : QualOK r.2) (h : runModsP ads1 ads2 mods r i evs = .ok (o, j, evs')) :
    PairRel s r o ∧ j.1.isRc = i.1.isRc := by
  induction mods generalizing r i evs with
  | nil =>
    cases h
    exact ⟨.refl s _, rfl⟩
  | cons m ms ih =>
    obtain ⟨r1, i1, e1, h1, h2⟩ := runModsP_cons_ok h
    obtain ⟨a1, a2⟩ := applyP_pairRel (hok m List.mem_cons_self) (hrc m List.mem_cons_self) hq1 hq2 h1
    obtain ⟨q1, q2⟩ := a1.qualOK hq1 hq2
    obtain ⟨b1, b2⟩ := ih (fun x hx => hok x (List.mem_cons_of_mem _ hx)) (fun x hx => hrc x (List.mem_cons_of_mem _ hx))
      q1 q2 h2
    exact ⟨a1.trans b1, b2.trans a2⟩

/-- **The paired modifier list as a whole**: with at most one `PairedReverseComplementer`, the output mates are
    (zero-capped, with `s = false` possibly marked) slices of (R1, R2) — of (R2, R1) iff the pair was flagged as
    swapped — and sequence and qualities of both mates stay equally long -/
theorem runModsP_pairRel {s : Bool} {ads1 ads2 : List Matchable} {mods : List PMod} (hok : ∀ m ∈ mods, m.OK s)
    (hrc : pairedRevcompStages mods ≤ 1) {r o : Read × Read} {i j : Info × Info} {evs evs' : List Event}
    (hq1 : QualOK r.1) (hq2 : QualOK r.2) (hi : i.1.isRc ≠ some true)
    (h : runModsP ads1 ads2 mods r i evs = .ok (o, j, evs')) :
    (QualOK o.1 ∧ QualOK o.2) ∧ (if j.1.isRc = some true then PairRel s (r.2, r.1) o else PairRel s r o) := by
  induction mods generalizing r i evs with
  | nil =>
    cases h
    rw [if_neg hi]
    exact ⟨⟨hq1, hq2⟩, .refl s _⟩
  | cons m ms ih =>
    obtain ⟨r1, i1, e1, h1, h2⟩ := runModsP_cons_ok h
    have hok' : ∀ x ∈ ms, x.OK s := fun x hx => hok x (List.mem_cons_of_mem _ hx)
    obtain ⟨hrc1, hrc2⟩ := filter_length_le_one_cons hrc
    cases hm : m.isRevcomp with
    | true =>
      -- the reverse-complementing stage itself: no further one behind it
      obtain ⟨c1, c2, sfx, f1, f2, rfl⟩ := PMod.eq_pairedRevcomp_of_isRevcomp hm
      have hok1 := hok _ List.mem_cons_self
      have a := applyP_pairedRevcomp_pairRel hok1.1 hok1.2 h1
      -- whichever order it chose, the stage was given two reads with equally long qualities
      obtain ⟨q1, q2⟩ := a.qualOK (by split <;> assumption) (by split <;> assumption)
      obtain ⟨b1, b2⟩ := runModsP_norc hok' (hrc1 hm) q1 q2 h2
      refine ⟨b1.qualOK q1 q2, ?_⟩
      have ab := a.trans b1
      rw [b2]
      by_cases hf : i1.1.isRc = some true
      · rw [if_pos hf] at ab ⊢
        exact ab
      · rw [if_neg hf] at ab ⊢
        exact ab
    | false =>
      obtain ⟨a1, a2⟩ := applyP_pairRel (hok m List.mem_cons_self) hm hq1 hq2 h1
      obtain ⟨q1, q2⟩ := a1.qualOK hq1 hq2
      obtain ⟨b1, b2⟩ := ih hok' hrc2 q1 q2 (a2 ▸ hi) h2
      refine ⟨b1, ?_⟩
      by_cases hf : j.1.isRc = some true
      · rw [if_pos hf] at b2 ⊢
        exact a1.swap_trans b2
      · rw [if_neg hf] at b2 ⊢
        exact a1.trans b2

end Cutadapt
