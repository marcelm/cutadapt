import Cutadapt.Proofs.RegroupBlocks
import Cutadapt.Proofs.ModsBounds
import Cutadapt.Properties.C03
/-! `AdapterCutter._regroup_into_indexed_adapters` (model: `Cutadapt/Regroup.lean`): what the default (index-using) adapter stage
    iterates over. Listed as obligations of C08 ("an adapter index changes only speed"). -/
namespace Cutadapt.C08
open Cutadapt Cutadapt.Adapters

/-- an entry is indexable only if it is a single adapter that `AdapterIndex` accepts -/
theorem indexableAs_some {p : Bool} {m : Matchable} {a : Adapter} (h : indexableAs p m = some a) :
    m = .single a ∧ Index.accept a p = true := by
  cases m with
  | single x =>
    simp only [indexableAs] at h
    split at h
    · rename_i hacc
      cases h
      exact ⟨rfl, hacc⟩
    · cases h
  | linked f b fr br n => simp [indexableAs] at h
  | indexed ix ids => simp [indexableAs] at h

/-- **Without at least two indexable adapters of one kind nothing is regrouped or re-ordered** -/
theorem regroup_noop (ads : List Matchable) (h1 : (splitAdapters ads).1.length ≤ 1) (h2 : (splitAdapters ads).2.1.length ≤ 1) :
    (regroup ads).ads = ads := by
  rw [regroup_of_not ads (by simp only [Bool.or_eq_true, decide_eq_true_eq]; omega)]

/-- members of the three lists of `_split_adapters` are entries of the given list -/
theorem mem_split_pre {ads : List Matchable} {a : Adapter} {j : Nat} (h : (a, j) ∈ (splitAdapters ads).1) :
    ads[j]? = some (.single a) ∧ Index.accept a true = true := by
  simp only [splitAdapters, List.mem_filterMap, Option.map_eq_some_iff] at h
  obtain ⟨⟨m, i⟩, hm, a', ha', heq⟩ := h
  simp only [Prod.mk.injEq] at heq
  obtain ⟨rfl, rfl⟩ := heq
  obtain ⟨rfl, hacc⟩ := indexableAs_some ha'
  exact ⟨(List.mem_zipIdx_iff_getElem?.mp hm), hacc⟩

theorem mem_split_suf {ads : List Matchable} {a : Adapter} {j : Nat} (h : (a, j) ∈ (splitAdapters ads).2.1) :
    ads[j]? = some (.single a) ∧ Index.accept a false = true := by
  simp only [splitAdapters, List.mem_filterMap] at h
  obtain ⟨⟨m, i⟩, hm, h2⟩ := h
  split at h2
  · cases h2
  · simp only [Option.map_eq_some_iff, Prod.mk.injEq] at h2
    obtain ⟨a', ha', rfl, rfl⟩ := h2
    obtain ⟨rfl, hacc⟩ := indexableAs_some ha'
    exact ⟨(List.mem_zipIdx_iff_getElem?.mp hm), hacc⟩

theorem mem_split_other {ads : List Matchable} {m : Matchable} {j : Nat} (h : (m, j) ∈ (splitAdapters ads).2.2) :
    ads[j]? = some m := by
  simp only [splitAdapters, List.mem_filter] at h
  exact List.mem_zipIdx_iff_getElem?.mp h.1

/-- **Every entry of the regrouped list is a given adapter, or an index built by `AdapterIndex` from given adapters that it accepts**
    (anchored 5' for the prefix index, anchored 3' for the suffix index) -/
theorem regroup_entries (ads : List Matchable) (m : Matchable) (h : m ∈ (regroup ads).ads) :
    m ∈ ads ∨ ∃ (isPrefix : Bool) (members : List Adapter) (ids : List Nat),
      m = .indexed (Index.makeIndex Index.hashOps members isPrefix) ids ∧ 2 ≤ members.length ∧
      ∀ a ∈ members, Matchable.single a ∈ ads ∧ Index.accept a isPrefix = true := by
  by_cases hc : ((splitAdapters ads).1.length > 1 || (splitAdapters ads).2.1.length > 1) = true
  · obtain ⟨ids1, ids2, hr⟩ := regroup_eq ads hc
    rw [hr, entries] at h
    obtain ⟨x, hx, rfl⟩ := List.mem_map.mp h
    -- `x` is one of the other adapters, or belongs to a block all of whose adapters are given and accepted
    obtain hx | ⟨p, l, ids, hx, hl⟩ : x ∈ (splitAdapters ads).2.2.map (fun p => (p.1, some p.2)) ∨
        ∃ p l ids, x ∈ block p l ids ∧ ∀ q ∈ l, ads[q.2]? = some (.single q.1) ∧ Index.accept q.1 p = true := by
      rcases List.mem_append.mp hx with hx | hx
      · exact (List.mem_append.mp hx).imp_right fun hx => ⟨true, _, _, hx, fun _ hq => mem_split_pre hq⟩
      · exact .inr ⟨false, _, _, hx, fun _ hq => mem_split_suf hq⟩
    · obtain ⟨q, hq, rfl⟩ := List.mem_map.mp hx
      exact .inl (List.mem_of_getElem? (mem_split_other hq))
    · rcases mem_block hx with ⟨q, hq, rfl⟩ | ⟨rfl, h2⟩
      · exact .inl (List.mem_of_getElem? (hl q hq).1)
      · refine .inr ⟨p, l.map (·.1), ids, rfl, by rw [List.length_map]; exact h2, fun a ha => ?_⟩
        obtain ⟨q, hq, rfl⟩ := List.mem_map.mp ha
        exact ⟨List.mem_of_getElem? (hl q hq).1, (hl q hq).2⟩
  · rw [regroup_of_not ads hc] at h
    exact .inl h

/-- **The regrouped list of well-formed adapters is well-formed** (`Matchable.WF`, the hypothesis under which C03's slice theorems and
    C01/C08's coordinate bounds apply): the pipeline theorems therefore cover cutadapt's default, index-using adapter stage.
    `hacgt`: adapters that `AdapterIndex` accepts consist of A, C, G, T (they have no wildcards; other literal characters would never
    match a key of the index). -/
theorem regroup_wf (ads : List Matchable) (hwf : ∀ m ∈ ads, m.WF)
    (hacgt : ∀ a p, Matchable.single a ∈ ads → Index.accept a p = true → IsACGT a.seq) :
    ∀ m ∈ (regroup ads).ads, m.WF := by
  intro m hm
  rcases regroup_entries ads m hm with h | ⟨p, members, ids, rfl, _, hmem⟩
  · exact hwf m h
  · refine ⟨rfl, fun a ha => ?_⟩
    obtain ⟨hin, hacc⟩ := hmem a ha
    exact ⟨hacgt a p hin hacc, hwf _ hin⟩

/-- **The default, index-using single-end pipeline writes (marked) slices** — C03's statement for what `cutadapt` runs when `--no-index`
    is not given: the modifiers are assembled over the regrouped adapter list, and for well-formed adapters the read that leaves them
    has the length of a slice of the input (of its reverse complement iff flagged) and carries exactly that slice of the qualities,
    whatever the `--action`. -/
theorem indexed_pipeline_marked_slice (o : Opts) (ads : List Matchable) (p : SinglePipeline) (f : Files) (rg : Regrouped)
    (hmk : makeSingleIndexed o ads = .ok (p, f, rg)) (hwf : ∀ m ∈ ads, m.WF)
    (hacgt : ∀ a q, Matchable.single a ∈ ads → Index.accept a q = true → IsACGT a.seq)
    (read r' : Read) (i' : Info) (evs evs' : List Event) (hq : QualOK read)
    (h : runModsS (namesOf p.ads) p.mods read { original := read } evs = .ok (r', i', evs')) :
    QualOK r' ∧
    SegRel false (if o.zeroCap then [o.qualityBase.toNat] else []) (if i'.isRc = some true then read.revcomp else read) r' := by
  unfold makeSingleIndexed at hmk
  simp only [bind, Except.bind, pure, Except.pure] at hmk
  split at hmk
  · cases hmk
  · split at hmk
    · cases hmk
    · rename_i st hst
      split at hmk
      · cases hmk
      · rename_i mods hmods
        simp only [Except.ok.injEq, Prod.mk.injEq] at hmk
        obtain ⟨rfl, -, -⟩ := hmk
        exact C03.cli_pipeline_marked_slice_for_sound_adapters o (regroup ads).ads mods hmods (regroup_wf ads hwf hacgt) read r' i' evs evs' hq h

theorem filterMap_map_snd {α β : Type} (l : List (α × Nat)) (g : α × Nat → Option β) :
    (l.filterMap (fun ai => (g ai).map (·, ai.2))).map (·.2) = (l.filter (fun ai => (g ai).isSome)).map (·.2) := by
  induction l with
  | nil => rfl
  | cons x xs ih =>
    simp only [List.filterMap_cons, List.filter_cons]
    cases h : g x <;> simp [ih]

theorem perm3_second {x : Nat} {A B C L : List Nat} (h : (A ++ B ++ C).Perm L) : (A ++ (x :: B ++ C)).Perm (x :: L) := by
  have : (A ++ (x :: B ++ C)).Perm (x :: (A ++ (B ++ C))) := by simp
  exact this.trans (List.Perm.cons _ (by simpa [List.append_assoc] using h))

theorem perm3_third {x : Nat} {A B C L : List Nat} (h : (A ++ B ++ C).Perm L) : (A ++ (B ++ x :: C)).Perm (x :: L) := by
  have : (A ++ (B ++ x :: C)).Perm (x :: (A ++ B ++ C)) := by
    simpa [List.append_assoc] using List.perm_middle (a := x) (l₁ := A ++ B) (l₂ := C)
  exact this.trans (List.Perm.cons _ h)

/-- `_split_adapters` is a partition: every position of the given list is in exactly one of the three lists -/
theorem split_positions_perm (ads : List Matchable) :
    ((splitAdapters ads).2.2.map (·.2) ++ (splitAdapters ads).1.map (·.2) ++ (splitAdapters ads).2.1.map (·.2)).Perm (List.range ads.length) := by
  have hz : ads.zipIdx.map (·.2) = List.range ads.length := by
    simp [List.zipIdx_map_snd, List.range_eq_range']
  rw [← hz]
  simp only [splitAdapters]
  rw [filterMap_map_snd]
  have h2 : ∀ l : List (Matchable × Nat),
      (l.filterMap (fun ai => if (indexableAs true ai.1).isSome then none else (indexableAs false ai.1).map (·, ai.2))).map (·.2)
      = (l.filter (fun ai => (indexableAs true ai.1).isNone && (indexableAs false ai.1).isSome)).map (·.2) := by
    intro l
    induction l with
    | nil => rfl
    | cons x xs ih =>
      simp only [List.filterMap_cons, List.filter_cons]
      cases h1 : indexableAs true x.1 <;> cases h2 : indexableAs false x.1 <;> simp [ih]
  rw [h2]
  generalize ads.zipIdx = l
  induction l with
  | nil => simp
  | cons x xs ih =>
    simp only [List.filter_cons]
    cases h1 : indexableAs true x.1 <;> cases h2 : indexableAs false x.1
    · simpa [h1, h2, List.append_assoc] using ih
    · simpa [h1, h2, List.append_assoc] using perm3_third (x := x.2) ih
    · simpa [h1, h2, List.append_assoc] using perm3_second (x := x.2) ih
    · simpa [h1, h2, List.append_assoc] using perm3_second (x := x.2) ih

theorem filterMap_id_map_some {α : Type} (l : List α) (f : α → Nat) : (l.map (fun p => some (f p))).filterMap id = l.map f := by
  induction l with
  | nil => rfl
  | cons x xs ih => simp [ih]

/-- **Regrouping loses and duplicates nothing**: the adapter numbers of the regrouped table (index objects themselves aside) refer to
    every adapter of the given list exactly once -/
theorem regroup_origin_perm (ads : List Matchable) : ((regroup ads).origin.filterMap id).Perm (List.range ads.length) := by
  by_cases hc : ((splitAdapters ads).1.length > 1 || (splitAdapters ads).2.1.length > 1) = true
  · obtain ⟨ids1, ids2, hr⟩ := regroup_eq ads hc
    refine .trans ?_ (split_positions_perm ads)
    rw [hr, entries, ← block_origin true _ ids1, ← block_origin false _ ids2]
    simp only [List.map_append, List.filterMap_append, List.map_map, Function.comp_def, filterMap_id_map_some,
      List.append_assoc]
    -- each kind's positions are its block's origins and its member rows; the member rows of the 5' index stand behind the
    -- entries of the 3' block and are moved past them
    exact .append_left _ (.append_left _ (List.perm_append_comm_assoc ..))
  · rw [regroup_of_not ads hc]
    simp

end Cutadapt.C08
