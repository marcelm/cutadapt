import Cutadapt.Tokenizer
/-! `tokenize_braces` loses nothing: the accepted tokens, written back with their braces, are the template; and no token value
    contains a brace (so `str.format` on the template and token-wise rendering agree: there are no `{{`/`}}` escapes and no
    format specifications in an accepted template). -/
namespace Cutadapt.Tokenizer
open Cutadapt

def varBytes (v : String) : Bytes := v.toList.map (fun c => c.toNat.toUInt8)

/-- a token written back -/
def renderTok1 : Tok → Bytes
  | .lit s => s
  | .var v => lbrace :: varBytes v ++ [rbrace]

def renderTemplate (toks : List Tok) : Bytes := (toks.map renderTok1).flatten

/-- no brace inside a token value -/
def TokClean : Tok → Prop
  | .lit s => s ≠ [] ∧ lbrace ∉ s ∧ rbrace ∉ s
  | .var v => lbrace ∉ varBytes v ∧ rbrace ∉ varBytes v

theorem checkPiece_ok {v : Bytes} (h : checkPiece v = .ok ()) : lbrace ∉ v ∧ rbrace ∉ v := by
  unfold checkPiece at h
  split at h
  · cases h
  · split at h
    · cases h
    · rename_i h1 h2
      exact ⟨by simpa using h1, by simpa using h2⟩

theorem flushLit_ok {lit : Bytes} {acc acc' : List Tok} (h : flushLit lit acc = .ok acc') :
    renderTemplate acc'.reverse = renderTemplate acc.reverse ++ lit ∧ ((∀ t ∈ acc, TokClean t) → ∀ t ∈ acc', TokClean t) := by
  unfold flushLit at h
  split at h
  · rename_i he
    cases h
    have : lit = [] := by simpa using he
    subst this
    simp
  · rename_i hne
    split at h
    · cases h
    · rename_i hc
      cases h
      obtain ⟨c1, c2⟩ := checkPiece_ok hc
      refine ⟨by simp [renderTemplate, renderTok1], ?_⟩
      intro hall t ht
      rcases List.mem_cons.mp ht with rfl | ht
      · exact ⟨by intro e; subst e; simp at hne, c1, c2⟩
      · exact hall t ht

theorem char_toNat_ofNat (n : Nat) (h : n < 128) : (Char.ofNat n).toNat = n := by
  have hv : n.isValidChar := Or.inl (by omega)
  unfold Char.ofNat
  rw [dif_pos hv]
  simp [Char.ofNatAux, Char.toNat, UInt32.toNat_ofNatLT]

theorem varBytes_ofList (inner : Bytes) (h : ∀ b ∈ inner, b < 128) :
    varBytes (String.ofList (inner.map (fun b => Char.ofNat b.toNat))) = inner := by
  unfold varBytes
  rw [String.toList_ofList, List.map_map]
  conv => rhs; rw [← List.map_id inner]
  apply List.map_congr_left
  intro b hb
  have hb' : b.toNat < 128 := h b hb
  simp only [Function.comp, id, char_toNat_ofNat _ hb']
  exact UInt8.ofNat_toNat

theorem takeWhile_dropWhile_rbrace (rest : Bytes) (h : rest.contains rbrace = true) :
    rest = rest.takeWhile (· != rbrace) ++ rbrace :: (rest.dropWhile (· != rbrace)).drop 1 := by
  induction rest with
  | nil => simp at h
  | cons c cs ih =>
    by_cases hc : c = rbrace
    · subst hc
      simp [List.takeWhile, List.dropWhile]
    · have hne : (c != rbrace) = true := by simpa using hc
      have hcs : cs.contains rbrace = true := by
        simp only [List.contains_cons] at h
        rcases Bool.or_eq_true _ _ |>.mp h with h1 | h1
        · exact absurd (by simpa using h1 : rbrace = c).symm hc
        · exact h1
      simp only [List.takeWhile_cons, List.dropWhile_cons, hne, if_true, List.cons_append]
      exact congrArg _ (ih hcs)

/-- invariant of the scan: what has been emitted, the pending literal and the rest of the input spell the template -/
theorem scan_sound (fuel : Nat) : ∀ (rest lit : Bytes) (acc : List Tok) (toks : List Tok),
    (∀ b ∈ rest, b < 128) → scan fuel rest lit acc = .ok toks →
    rest.length ≤ fuel →
    renderTemplate toks = renderTemplate acc.reverse ++ lit.reverse ++ rest ∧ ((∀ t ∈ acc, TokClean t) → ∀ t ∈ toks, TokClean t) := by
  -- the scan ends by emitting the pending literal
  have done : ∀ (lit : Bytes) (acc toks : List Tok), (flushLit lit.reverse acc).map List.reverse = .ok toks →
      renderTemplate toks = renderTemplate acc.reverse ++ lit.reverse ++ [] ∧ ((∀ t ∈ acc, TokClean t) → ∀ t ∈ toks, TokClean t) := by
    intro lit acc toks h
    cases hfl : flushLit lit.reverse acc with
    | error e => rw [hfl] at h; cases h
    | ok acc' =>
      rw [hfl] at h
      cases h
      obtain ⟨r1, r2⟩ := flushLit_ok hfl
      exact ⟨by rw [r1, List.append_nil], fun hall t ht => r2 hall t (List.mem_reverse.mp ht)⟩
  induction fuel with
  | zero =>
    intro rest lit acc toks _ h hf
    obtain rfl : rest = [] := List.eq_nil_of_length_eq_zero (Nat.le_zero.1 hf)
    exact done lit acc toks h
  | succ fuel ih =>
    intro rest lit acc toks hascii h hf
    cases rest with
    | nil => exact done lit acc toks h
    | cons c cs =>
      have hlen : cs.length ≤ fuel := Nat.le_of_succ_le_succ hf
      rw [scan] at h
      split at h
      · rename_i hcond
        obtain ⟨hc, hcont⟩ := Bool.and_eq_true _ _ |>.mp hcond
        have hc' : c = lbrace := by simpa using hc
        subst hc'
        cases hfl : flushLit lit.reverse acc with
        | error e => rw [hfl] at h; cases h
        | ok acc' =>
          rw [hfl] at h
          simp only at h
          cases hcp : checkPiece (cs.takeWhile (· != rbrace)) with
          | error e => rw [hcp] at h; cases h
          | ok u =>
            rw [hcp] at h
            simp only at h
            have hsplit := takeWhile_dropWhile_rbrace cs hcont
            have hinner_ascii : ∀ b ∈ cs.takeWhile (· != rbrace), b < 128 := fun b hb =>
              hascii b (List.mem_cons_of_mem _ ((List.takeWhile_prefix _).subset hb))
            have hafter_ascii : ∀ b ∈ (cs.dropWhile (· != rbrace)).drop 1, b < 128 := fun b hb =>
              hascii b (List.mem_cons_of_mem _ ((List.dropWhile_suffix _).subset (List.mem_of_mem_drop hb)))
            have hafter_len : ((cs.dropWhile (· != rbrace)).drop 1).length ≤ fuel :=
              Nat.le_trans (List.length_drop ▸ Nat.sub_le _ 1) (Nat.le_trans (List.dropWhile_suffix _).length_le hlen)
            obtain ⟨q1, q2⟩ := ih _ [] _ toks hafter_ascii h hafter_len
            obtain ⟨r1, r2⟩ := flushLit_ok hfl
            obtain ⟨c1, c2⟩ := checkPiece_ok hcp
            have hv := varBytes_ofList (cs.takeWhile (· != rbrace)) hinner_ascii
            refine ⟨?_, ?_⟩
            · have snoc : ∀ (ts : List Tok) (t : Tok), renderTemplate (ts ++ [t]) = renderTemplate ts ++ renderTok1 t := by
                intro ts t; simp [renderTemplate]
              rw [q1, List.reverse_cons, snoc, r1, renderTok1, hv]
              conv => rhs; rw [hsplit]
              simp only [List.append_assoc, List.cons_append, List.nil_append, List.reverse_nil]
            · intro hall
              apply q2
              intro t ht
              rcases List.mem_cons.mp ht with rfl | ht
              · exact ⟨by rw [hv]; exact c1, by rw [hv]; exact c2⟩
              · exact r2 hall t ht
      · obtain ⟨q1, q2⟩ := ih cs (c :: lit) acc toks (fun b hb => hascii b (List.mem_cons_of_mem _ hb)) h hlen
        exact ⟨by rw [q1]; simp, q2⟩

/-- **An accepted template is reproduced by its tokens**, and no token value contains a brace: for ASCII templates,
    `tokenize_braces(s) = toks` implies that writing the tokens back (`{name}` for a placeholder) gives `s`. -/
theorem tokenize_sound (s : Bytes) (toks : List Tok) (hascii : ∀ b ∈ s, b < 128) (h : tokenizeBraces s = .ok toks) :
    renderTemplate toks = s ∧ ∀ t ∈ toks, TokClean t := by
  obtain ⟨h1, h2⟩ := scan_sound (s.length + 1) s [] [] toks hascii h (Nat.le_succ _)
  exact ⟨by simpa [renderTemplate] using h1, h2 (by simp)⟩

end Cutadapt.Tokenizer
