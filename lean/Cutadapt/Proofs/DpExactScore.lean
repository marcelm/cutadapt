import Cutadapt.Proofs.DpExactFound
/-! Exactness of the banded DP: score bookkeeping (a cell with an error scores less than its row), zero-cost cells. -/
namespace Cutadapt.Align.Exact
open Cutadapt Cutadapt.Align Cutadapt.Spec Cutadapt.Generated Cutadapt.Align.Sound

/-- a cell with positive cost has lost at least one point of score against its row -/
def ScoreLt (i : Nat) (e : Entry) : Prop := 0 < e.cost → e.score < (i : Int)

/-- the two score facts that hold of every cell, computed or not -/
def ScoreInv (i : Nat) (e : Entry) : Prop := e.score ≤ (i : Int) ∧ ScoreLt i e

theorem cell_scoreInv (cfg : Cfg) (i : Nat) (b : Bool) (diag cur prev : Entry)
    (hd : ScoreInv i diag) (hcur : ScoreInv (i+1) cur) (hp : ScoreInv i prev) :
    ScoreInv (i+1) (cell cfg b diag cur prev) := by
  obtain ⟨hd1, hd2⟩ := hd
  obtain ⟨hc1, hc2⟩ := hcur
  obtain ⟨hp1, hp2⟩ := hp
  unfold ScoreInv ScoreLt at *
  unfold cell
  simp only [matchScore, mismatchScore, deletionScore, insertionScore]
  split
  · -- a match keeps the cost of the diagonal neighbour and the distance of its score from the row
    refine ⟨by simp only; omega, ?_⟩
    simp only
    intro h0
    have := hd2 h0
    omega
  · -- a mismatch, a deletion or an insertion loses a point whatever the neighbour's cost
    split
    · refine ⟨by simp only; omega, ?_⟩
      simp only
      intro _
      omega
    · split
      · refine ⟨by simp only; omega, ?_⟩
        simp only
        intro _
        omega
      · refine ⟨by simp only; omega, ?_⟩
        simp only
        intro _
        omega

theorem stepCell0_scoreInv (cfg : Cfg) (c0 : Entry) (h : ScoreInv 0 c0) : ScoreInv 0 (stepCell0 cfg c0) := by
  obtain ⟨h1, h2⟩ := h
  unfold stepCell0 ScoreInv ScoreLt at *
  split
  · exact ⟨by simpa using h1, by simpa using h2⟩
  · simp only [insertionScore]
    exact ⟨by omega, fun _ => by omega⟩

theorem initEntry_scoreLt {cfg : Cfg} (j0 : Nat) (hcase : j0 = 0 ∨ cfg.startInQuery = true) (i : Nat) :
    ScoreLt i (initEntry cfg j0 i) := by
  intro h0
  rw [initEntry_cost] at h0
  have hX := Nat.pos_of_mul_pos_right h0
  rw [initEntry_score_eq, deletionScore]
  cases h1 : cfg.startInRef <;> cases h2 : cfg.startInQuery <;>
    simp only [h1, h2, Bool.false_eq_true, if_false, if_true, or_false] at hX hcase ⊢ <;> omega

/-- the score facts of the cell a recorded match was taken from, in row `refStop` -/
def BestS (m : Nat) (b : Best) : Prop :=
  b.found = true → b.score ≤ (b.refStop : Int) ∧ (0 < b.cost → b.score < (b.refStop : Int)) ∧ b.refStop ≤ m ∧
    (b.cost = 0 → b.score = (b.refStop : Int) + min b.origin 0)

structure InvS (cfg : Cfg) (ref query : Bytes) (j : Nat) (s : LoopState) : Prop where
  cells : ∀ i, i ≤ ref.length → ScoreInv i (s.col.getD i default)
  bestS : BestS ref.length s.best
  bestQ : s.best.found = true → s.best.queryStop ≤ j

theorem columnLoop_S {cfg : Cfg} {ref query : Bytes} (hwf : cfg.WF ref.length) {j : Nat}
    (hj : j < query.length) {s : LoopState} (h : Inv cfg ref query j s) (hs : InvS cfg ref query j s) :
    InvS cfg ref query (j+1) (stepAt cfg ref query s j hj) := by
  cases hd : s.done
  case true =>
    rw [stepAt_done hd]
    exact { cells := hs.cells, bestS := hs.bestS, bestQ := fun hf => Nat.le_succ_of_le (hs.bestQ hf) }
  case false =>
    have hm := mkCtx_ref_length cfg ref query
    have hcells : ∀ i, i ≤ ref.length → ScoreInv i ((colAt cfg ref query s j hj).getD i default) := by
      rw [← hm]
      exact stepColumn_ind default (h.col hd).len ScoreInv (stepCell0_scoreInv cfg _ (hs.cells 0 (Nat.zero_le _)))
        (fun i hi _ prev hp => cell_scoreInv cfg i _ _ _ _ (hs.cells i (by omega)) (hs.cells (i+1) (by omega)) hp)
        (fun i hi _ => hs.cells (i+1) (by omega))
    have hok := ((h.stepCol hwf hd hj).cell (Nat.le_refl _)).2.1
    obtain ⟨f1, _, _, _, f5⟩ := stepAt_spec hd h.last_le rfl rfl
    refine { cells := ?_, bestS := ?_, bestQ := ?_ }
    · rw [f1]
      exact hcells
    · rcases f5 with ⟨hb, _⟩ | ⟨_, _, _, _, hb, _⟩
      · rw [hb]; exact hs.bestS
      · rw [hb]
        exact fun _ => ⟨(hcells _ (Nat.le_refl _)).1, (hcells _ (Nat.le_refl _)).2, Nat.le_refl _, hok.2⟩
    · rcases f5 with ⟨hb, _⟩ | ⟨_, _, _, _, hb, _⟩
      · rw [hb]
        exact fun hf => Nat.le_succ_of_le (hs.bestQ hf)
      · rw [hb]; exact fun _ => Nat.le_refl _

theorem initState_S (cfg : Cfg) (ref query : Bytes)
    (hcase : minNOf cfg ref.length query.length = 0 ∨ cfg.startInQuery = true) :
    InvS cfg ref query (minNOf cfg ref.length query.length) (initState cfg ref.length query.length) := by
  refine { cells := fun i hi => ?_, bestS := fun hf => (by cases hf), bestQ := fun hf => (by cases hf) }
  rw [initState_col_getD _ _ hi]
  refine ⟨?_, initEntry_scoreLt _ hcase i⟩
  rw [initEntry_score_eq, deletionScore]
  split <;> omega

theorem seg_lengths_of_cost_zero (eq : Sym → Sym → Bool) {c : Nat} (hc : 1 ≤ c) {s : List Op} {xs ys : List Sym}
    {a i b j : Nat} (hi : i ≤ xs.length) (hj : j ≤ ys.length) (hl : lhs s = seg xs a i) (hr : rhs s = seg ys b j)
    (h0 : cost eq c s = 0) : i - a = j - b := by
  obtain ⟨hn, _⟩ := no_indel_script eq c s (by omega)
  rw [hl, hr, seg_length, seg_length, Nat.min_eq_left hi, Nat.min_eq_left hj] at hn
  exact hn

/-- a zero-cost cell lies on the diagonal of its start -/
theorem good_zero_diag {ctx : Ctx} (hc : 1 ≤ ctx.cfg.indelCost) {i j : Nat} {e : Entry}
    (hi : i ≤ ctx.ref.length) (hj : j ≤ ctx.query.length) (hg : Good ctx i j e) (h0 : e.cost = 0) :
    (decode e.origin).1 + j = (decode e.origin).2 + i := by
  obtain ⟨g1, g2, _, _, s, hl, hr, hcs⟩ := hg
  have := seg_lengths_of_cost_zero ctx.eq hc hi hj hl hr (by omega)
  omega

/-- a zero-cost cell in the last row, `m` or more columns in, is the end of an error-free copy: it remembers the start of
    the copy and is acceptable -/
theorem exact_cell {cfg : Cfg} {ref query : Bytes} (hwf : cfg.WF ref.length) (hmo : cfg.minOverlap ≤ ref.length)
    {p j : Nat} {e : Entry} (hj : j = p + ref.length) (hjn : j ≤ query.length)
    (hg : Good (mkCtx cfg ref query) ref.length j e) (h0 : e.cost = 0) :
    e.origin = (p : Int) ∧ accB cfg ref ref.length ref.length e = true := by
  have hdiag := good_zero_diag (ctx := mkCtx cfg ref query) hwf.indel_pos (by rw [mkCtx_ref_length]; exact Nat.le_refl _)
    (by rw [mkCtx_query_length]; exact hjn) hg h0
  have ha : (decode e.origin).1 = 0 := by have := decode_one e.origin; omega
  have hb : (decode e.origin).2 = p := by omega
  have ho : e.origin = (p : Int) := by
    rw [decode_fst] at ha
    rw [decode_snd] at hb
    omega
  refine ⟨ho, accB_iff.mpr ?_⟩
  rw [ha, h0]
  exact ⟨hmo, Nat.zero_le _⟩

end Cutadapt.Align.Exact
