import Cutadapt.Proofs.AlignSoundLoop
/-! Soundness of `Align.locate`: `locate` in terms of the state after the column loop, the last-column search, the theorem. -/
namespace Cutadapt.Align.Sound
open Cutadapt Cutadapt.Align Cutadapt.Spec Cutadapt.Generated Cutadapt.Align.Exact

/-- the best match `locate` ends up with, the two lengths being parameters (`locate` takes them from the encoded sequences) -/
def bestAt (cfg : Cfg) (ref query : Bytes) (m n : Nat) : Best :=
  let s := (((List.range n).zip (encodeQuery cfg query)).filterMap
      (fun (j0, q) => if minNOf cfg m n ≤ j0 && j0 < maxNOf cfg m n then some (j0+1, q) else none)).foldl
    (columnLoop cfg (compareAscii cfg) (encodeRef cfg ref) ref m) (initState cfg m n)
  if maxNOf cfg m n == n then
    lastColumnSearch cfg ref m n s.col s.origin (if cfg.stopInRef then 0 else m) s.lastFilled s.best
  else s.best

def finalBest (cfg : Cfg) (ref query : Bytes) : Best := bestAt cfg ref query ref.length query.length

theorem finalBest_eq (cfg : Cfg) (ref query : Bytes) :
    finalBest cfg ref query =
      if maxNOf cfg ref.length query.length == query.length then
        lastColumnSearch cfg ref ref.length query.length (finalState cfg ref query).col (finalState cfg ref query).origin
          (if cfg.stopInRef then 0 else ref.length) (finalState cfg ref query).lastFilled (finalState cfg ref query).best
      else (finalState cfg ref query).best := rfl

theorem locate_eq (cfg : Cfg) (refRaw queryRaw : List UInt8) :
    locate cfg refRaw queryRaw =
      if !(finalBest cfg refRaw queryRaw).found then none else
      some ((decode (finalBest cfg refRaw queryRaw).origin).1, (finalBest cfg refRaw queryRaw).refStop,
            (decode (finalBest cfg refRaw queryRaw).origin).2, (finalBest cfg refRaw queryRaw).queryStop,
            (finalBest cfg refRaw queryRaw).score, (finalBest cfg refRaw queryRaw).cost) := by
  -- with the lengths of the encoded sequences in place of those of the raw ones this is `locate` as written
  unfold finalBest
  rw [← encodeRef_length cfg refRaw, ← encodeQuery_length cfg queryRaw]
  rfl

theorem locate_eq_some {cfg : Cfg} {ref query : Bytes} {as ae rs re : Nat} {score : Int} {e : Nat}
    (h : locate cfg ref query = some (as, ae, rs, re, score, e)) :
    (finalBest cfg ref query).found = true ∧ as = (decode (finalBest cfg ref query).origin).1 ∧
      ae = (finalBest cfg ref query).refStop ∧ rs = (decode (finalBest cfg ref query).origin).2 ∧
      re = (finalBest cfg ref query).queryStop ∧ e = (finalBest cfg ref query).cost := by
  rw [locate_eq] at h
  split at h
  · cases h
  · next hf =>
    simp only [Option.some.injEq, Prod.mk.injEq] at h
    obtain ⟨h1, h2, h3, h4, _, h6⟩ := h
    exact ⟨by simpa using hf, h1.symm, h2.symm, h3.symm, h4.symm, h6.symm⟩

/-- what holds of the best match after the loop, and passes to every last-column candidate that replaces a match of which
    it holds, holds of the result -/
theorem finalBest_ind {cfg : Cfg} {ref query : Bytes} (hwf : cfg.WF ref.length) (P : Best → Prop)
    (hbest : P (finalState cfg ref query).best)
    (hnew : maxNOf cfg ref.length query.length = query.length → (finalState cfg ref query).done = false →
      ∀ i b, (cfg.stopInRef = false → ref.length ≤ i) → i ≤ (finalState cfg ref query).lastFilled → P b →
      colUpd cfg ref ref.length (finalState cfg ref query).origin i b ((finalState cfg ref query).col.getD i default) = true →
      P ⟨((finalState cfg ref query).col.getD i default).origin, ((finalState cfg ref query).col.getD i default).cost,
        ((finalState cfg ref query).col.getD i default).score, i, query.length, true⟩) :
    P (finalBest cfg ref query) := by
  rw [finalBest_eq]
  split
  · next hmn =>
    have hmn' : maxNOf cfg ref.length query.length = query.length := by simpa using hmn
    have hinv := finalState_inv (query := query) hwf (by rw [hmn']; exact minNOf_le ..)
    rw [hmn'] at hinv
    unfold lastColumnSearch
    cases hd : (finalState cfg ref query).done
    case true =>
      -- the loop stopped on a match that scores `m`: the search keeps it
      obtain ⟨hf, hsc⟩ := hinv.doneBest hd
      rw [go_done _ (fun i hi => (hinv.score i hi).1) _ _ _ hinv.filled_le hf hsc]
      exact hbest
    case false =>
      refine go_ind _ (finalState cfg ref query).lastFilled P (fun i b h1 h2 hb h3 => ?_) _ _ _ (Nat.le_refl _) hbest
      have hrow : cfg.stopInRef = false → ref.length ≤ i := fun hs => by
        rw [hs, if_neg Bool.false_ne_true] at h1
        exact h1
      exact hnew hmn' hd i b hrow h2 hb h3
  · exact hbest

theorem finalBest_inv {cfg : Cfg} {ref query : Bytes} (hwf : cfg.WF ref.length) :
    BestInv cfg ref query (finalBest cfg ref query) := by
  have hinv := finalState_inv_max (query := query) hwf
  refine finalBest_ind hwf _ hinv.best (fun hmn hd i _ hsr hi _ hupd _ => ?_)
  rw [hmn, Nat.max_eq_right (minNOf_le ..)] at hinv
  have him := Nat.le_trans hi hinv.filled_le
  exact sound_of_accept hwf him (Nat.le_refl _) ((hinv.col hd).cell him).1 (.inr rfl)
    (fun hf => Nat.le_antisymm him (hsr hf)) (fun _ => rfl) (accB_of_colUpd hupd)

end Cutadapt.Align.Sound

namespace Cutadapt.Align
open Cutadapt.Align.Sound

theorem locate_sound (cfg : Cfg) (ref query : Bytes) (hwf : cfg.WF ref.length)
    {as ae rs re : Nat} {score : Int} {e : Nat}
    (h : locate cfg ref query = some (as, ae, rs, re, score, e)) :
    SoundResult cfg ref query as ae rs re e := by
  obtain ⟨hf, rfl, rfl, rfl, rfl, rfl⟩ := locate_eq_some h
  exact finalBest_inv hwf hf

end Cutadapt.Align
