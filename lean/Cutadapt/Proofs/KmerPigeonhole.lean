import Cutadapt.Proofs.KmerOccurs
import Cutadapt.Proofs.Script
/-! Pigeonhole argument for edit scripts (C07): more chunks than errors ⇒ one chunk is copied without error. -/
namespace Cutadapt.Spec
open Cutadapt

theorem indels_append (s t : List Op) : indels (s ++ t) = indels s + indels t := by simp [indels]

theorem indels_reverse (s : List Op) : indels s.reverse = indels s := by simp [indels, List.filter_reverse]

theorem indels_cons (o : Op) (s : List Op) : indels (o :: s) = (if o.isIndel then 1 else 0) + indels s := by
  rw [← List.singleton_append, indels_append]; cases o <;> rfl

theorem pigeonhole_split (eq : Sym → Sym → Bool) (c : Nat) (cs : List (List Sym)) (sc : List Op)
    (h : lhs sc = cs.flatten) (hc : cost eq c sc < cs.length) :
    ∃ j ch pre mid post, cs[j]? = some ch ∧ sc = pre ++ mid ++ post ∧ lhs pre = (cs.take j).flatten ∧
      lhs mid = ch ∧ cost eq c mid = 0 := by
  induction cs generalizing sc with
  | nil => simp at hc
  | cons ch rest ih =>
    obtain ⟨s1, s2, hsc, h1, h2⟩ := split_lhs sc ch rest.flatten (by simpa using h)
    by_cases hz : cost eq c s1 = 0
    · exact ⟨0, ch, [], s1, s2, by simp, by simp [hsc], by simp, h1, hz⟩
    · have hc2 : cost eq c s2 < rest.length := by
        rw [hsc, cost_append] at hc; simp at hc; omega
      obtain ⟨j, ch', pre, mid, post, hj, hs2, hpre, hmid, hcost⟩ := ih s2 h2 hc2
      refine ⟨j + 1, ch', s1 ++ pre, mid, post, by simpa using hj, by simp [hsc, hs2], ?_, hmid, hcost⟩
      simp [h1, hpre]

theorem zero_cost_occurs (eq : Sym → Sym → Bool) (c : Nat) (hc : 1 ≤ c) (mid : List Op) (h : cost eq c mid = 0) :
    (rhs mid).length = (lhs mid).length ∧ OccursAt eq (lhs mid) (rhs mid) 0 := by
  induction mid with
  | nil => exact ⟨rfl, Nat.le_refl _, fun j hj => absurd hj (Nat.not_lt_zero j)⟩
  | cons o mid ih =>
    rw [cost_cons] at h
    obtain ⟨ihl, _, ihp⟩ := ih (by omega)
    cases o with
    | sub r q =>
      have hrq : eq r q = true := by
        have h1 : Op.cost eq c (.sub r q) = 0 := by omega
        simp only [Op.cost] at h1
        split at h1
        · assumption
        · omega
      refine ⟨by simp [Op.lhs, Op.rhs, ihl], by simp [Op.lhs, Op.rhs, ihl], fun j hj => ?_⟩
      cases j with
      | zero => exact ⟨r, q, rfl, rfl, hrq⟩
      | succ j =>
        obtain ⟨a, b, ha, hb, hab⟩ := ihp j (by simpa [Op.lhs] using hj)
        exact ⟨a, b, by simpa [Op.lhs] using ha, by simpa [Op.rhs] using hb, hab⟩
    | del r => simp only [Op.cost] at h; omega
    | ins q => simp only [Op.cost] at h; omega

theorem length_diff_le_indels (s : List Op) :
    (lhs s).length ≤ (rhs s).length + indels s ∧ (rhs s).length ≤ (lhs s).length + indels s := by
  induction s with
  | nil => simp [indels]
  | cons o s ih => rw [indels_cons]; cases o <;> simp [Op.lhs, Op.rhs, Op.isIndel] <;> omega

/-- **Pigeonhole for edit scripts.** If a script with adapter side `lhs sc` costs at most `e` (indel cost at least 1)
    and `lhs sc` is cut into `e + 1` consecutive chunks, then some chunk is consumed entirely by zero-cost `sub`
    operations; hence it occurs, under the relation `eq`, in the read side `rhs sc`, at an offset that differs from its
    offset in `lhs sc` by at most the number of indels of the script. -/
theorem pigeonhole_script (eq : Sym → Sym → Bool) (c : Nat) (hc : 1 ≤ c) (sc : List Op) (e : Nat)
    (hcost : cost eq c sc ≤ e) (cs : List (List Sym)) (hcs : cs.flatten = lhs sc) (hlen : cs.length = e + 1) :
    ∃ j ch o', cs[j]? = some ch ∧ OccursAt eq ch (rhs sc) o' ∧
      o' ≤ (cs.take j).flatten.length + indels sc ∧ (cs.take j).flatten.length ≤ o' + indels sc := by
  obtain ⟨j, ch, pre, mid, post, hj, rfl, hpre, rfl, hz⟩ := pigeonhole_split eq c cs sc hcs.symm (by omega)
  obtain ⟨_, hocc⟩ := zero_cost_occurs eq c hc mid hz
  have hd := length_diff_le_indels pre
  -- `+ 0`: the offset in the shape `u.length + i` of `occursAt_append_right`
  refine ⟨j, _, (rhs pre).length + 0, hj, ?_, ?_, ?_⟩
  · rw [rhs_append, rhs_append, List.append_assoc]
    exact occursAt_append_right _ (occursAt_append_left _ hocc)
  · rw [← hpre, indels_append, indels_append]; omega
  · rw [← hpre, indels_append, indels_append]; omega

/-- pigeonhole when the chunks cover only a prefix of the adapter side, which the script sees through `f` -/
theorem pigeonhole_prefix (eq : Sym → Sym → Bool) (c : Nat) (hc : 1 ≤ c) (sc : List Op) (f : Sym → Sym)
    (cs : List (List Sym)) (tail : List Sym) (hcs : (cs.flatten ++ tail).map f = lhs sc)
    (hlen : cost eq c sc < cs.length) : ∃ k ∈ cs, ∃ o', OccursAt eq (k.map f) (rhs sc) o' := by
  rw [List.map_append, List.map_flatten] at hcs
  obtain ⟨s1, s2, rfl, h1, _⟩ := split_lhs sc _ _ hcs.symm
  rw [cost_append] at hlen
  obtain ⟨j, ch, o', hj, hocc, _, _⟩ := pigeonhole_script eq c hc s1 (cs.length - 1) (by omega) (cs.map (List.map f))
    h1.symm (by rw [List.length_map]; omega)
  rw [List.getElem?_map, Option.map_eq_some_iff] at hj
  obtain ⟨k, hk, rfl⟩ := hj
  exact ⟨k, List.mem_of_getElem? hk, o', by rw [rhs_append]; exact occursAt_append_left _ hocc⟩

theorem indels_mul_le_cost (eq : Sym → Sym → Bool) (c : Nat) (s : List Op) : indels s * c ≤ cost eq c s := by
  induction s with
  | nil => simp [indels]
  | cons o s ih =>
    rw [indels_cons, cost_cons, Nat.add_mul]
    have : (if o.isIndel then 1 else 0) * c ≤ o.cost eq c := by cases o <;> simp [Op.isIndel, Op.cost]
    omega

end Cutadapt.Spec
