import Cutadapt.Proofs.AlignSoundColumn
/-! Soundness of `Align.locate`, the loop: what one `columnLoop` step and one step of the last-column search do to the
    state, field by field; the invariant of the column loop; induction over the processed columns. -/
namespace Cutadapt.Align.Exact
open Cutadapt Cutadapt.Align Cutadapt.Spec Cutadapt.Generated Cutadapt.Align.Sound

/-- acceptance test of `locate` as a Boolean -/
def accB (cfg : Cfg) (ref : Bytes) (m i : Nat) (e : Entry) : Bool :=
  decide (toNatI ((i : Int) + min e.origin 0) ≥ cfg.minOverlap) &&
  decide (e.cost ≤ cfg.thr (effLen cfg ref m (toNatI (-(min e.origin 0))) i (toNatI ((i : Int) + min e.origin 0))))

/-- the aligned length of a candidate in row `i`: the reference characters from its start on -/
theorem toNatI_add_min (i : Nat) (o : Int) : toNatI ((i : Int) + min o 0) = i - (decode o).1 := by
  rw [decode_fst]
  unfold toNatI
  omega

theorem accB_iff {cfg : Cfg} {ref : Bytes} {m i : Nat} {e : Entry} :
    accB cfg ref m i e = true ↔ cfg.minOverlap ≤ i - (decode e.origin).1 ∧
      e.cost ≤ cfg.thr (effLen cfg ref m (decode e.origin).1 i (i - (decode e.origin).1)) := by
  have e1 : toNatI (-(min e.origin 0)) = (decode e.origin).1 := by rw [decode_fst]; rfl
  unfold accB
  rw [e1, toNatI_add_min, Bool.and_eq_true, decide_eq_true_eq, decide_eq_true_eq]

theorem toNatI_add_min_of_nonneg (i : Nat) {o : Int} (h : 0 ≤ o) : toNatI ((i : Int) + min o 0) = i := by
  rw [toNatI_add_min, decode_nonneg h]; rfl

/-- does the last-row candidate `e` replace `best`? -/
def rowUpd (cfg : Cfg) (ref : Bytes) (m : Nat) (best : Best) (e : Entry) : Bool :=
  accB cfg ref m m e && (!best.found
    || (decide (e.origin ≤ best.origin + ((m / 2 : Nat) : Int)) && decide (e.score > best.score))
    || (decide (((toNatI ((m : Int) + min e.origin 0) : Nat) : Int) > (m : Int) + min best.origin 0)
        && decide (e.score > best.score)))

theorem accB_of_rowUpd {cfg : Cfg} {ref : Bytes} {m : Nat} {best : Best} {e : Entry}
    (h : rowUpd cfg ref m best e = true) : accB cfg ref m m e = true := by
  unfold rowUpd at h
  rw [Bool.and_eq_true] at h
  exact h.1

/-- the first acceptable candidate is always taken -/
theorem rowUpd_of_not_found {cfg : Cfg} {ref : Bytes} {m : Nat} {best : Best} {e : Entry}
    (hf : best.found = false) : rowUpd cfg ref m best e = accB cfg ref m m e := by
  unfold rowUpd
  rw [hf]; simp

/-- both update rules against a recorded match read: acceptable, and better scoring by one of two criteria of position -/
theorem upd_shape {a b c d : Prop} : a ∧ (b ∧ c ∨ d ∧ c) ↔ a ∧ c ∧ (b ∨ d) := by
  constructor
  · rintro ⟨h1, h2 | h2⟩
    · exact ⟨h1, h2.2, .inl h2.1⟩
    · exact ⟨h1, h2.2, .inr h2.1⟩
  · rintro ⟨h1, h2, h3 | h3⟩
    · exact ⟨h1, .inl ⟨h3, h2⟩⟩
    · exact ⟨h1, .inr ⟨h3, h2⟩⟩

theorem rowUpd_found {cfg : Cfg} {ref : Bytes} {m : Nat} {best : Best} {e : Entry} (hf : best.found = true) :
    rowUpd cfg ref m best e = true ↔ accB cfg ref m m e = true ∧ best.score < e.score ∧
      (e.origin ≤ best.origin + ((m / 2 : Nat) : Int) ∨
        (m : Int) + min best.origin 0 < ((toNatI ((m : Int) + min e.origin 0) : Nat) : Int)) := by
  unfold rowUpd
  rw [hf]
  simp only [Bool.not_true, Bool.false_or, Bool.and_eq_true, Bool.or_eq_true, decide_eq_true_eq]
  exact upd_shape

theorem columnLoop_eq {cfg : Cfg} {ascii : Bool} {refE ref : Bytes} {m : Nat} {s : LoopState} {j : Nat} {q : UInt8}
    {col' : List Entry} (hd : s.done = false) (hcol : stepColumn cfg ascii refE q s.last s.col = col') :
    columnLoop cfg ascii refE ref m s (j, q) =
      (if shrinkLast cfg.k col' s.last < m + 1 then
        ⟨col', shrinkLast cfg.k col' s.last, s.best,
          if s.last ≥ 1 then (col'.getD s.last default).origin else s.origin, s.last, false⟩
      else if cfg.stopInQuery then
        if rowUpd cfg ref m s.best (col'.getD m default) then
          ⟨col', m, ⟨(col'.getD m default).origin, (col'.getD m default).cost, (col'.getD m default).score, m, j, true⟩,
            (col'.getD m default).origin, s.last,
            ((col'.getD m default).cost == 0 && decide ((col'.getD m default).origin ≥ 0))⟩
        else ⟨col', m, s.best, (col'.getD m default).origin, s.last, false⟩
      else ⟨col', m, s.best, if s.last ≥ 1 then (col'.getD s.last default).origin else s.origin, s.last, false⟩
        : LoopState) := by
  subst hcol
  unfold columnLoop rowUpd accB
  simp only [hd, Bool.false_eq_true, if_false]

/-- the column `stepAt` computes -/
def colAt (cfg : Cfg) (ref query : Bytes) (s : LoopState) (j : Nat) (hj : j < query.length) : List Entry :=
  stepColumn cfg (compareAscii cfg) (encodeRef cfg ref) ((encodeQuery cfg query)[j]'(by rw [encodeQuery_length]; exact hj))
    s.last s.col

/-- `locate`'s loop body for the query character at position `j` -/
def stepAt (cfg : Cfg) (ref query : Bytes) (s : LoopState) (j : Nat) (hj : j < query.length) : LoopState :=
  columnLoop cfg (compareAscii cfg) (encodeRef cfg ref) ref ref.length s
    (j+1, (encodeQuery cfg query)[j]'(by rw [encodeQuery_length]; exact hj))

section step
variable {cfg : Cfg} {ref query : Bytes} {s s' : LoopState} {j : Nat} {hj : j < query.length} {col' : List Entry}

theorem stepAt_done (hd : s.done = true) : stepAt cfg ref query s j hj = s :=
  if_pos hd

/-- the next state field by field: the best match changes only by the last-row cell, and only if the band reaches it -/
theorem stepAt_spec (hd : s.done = false) (hlm : s.last ≤ ref.length)
    (hcol : colAt cfg ref query s j hj = col') (hs : stepAt cfg ref query s j hj = s') :
    s'.col = col' ∧ s'.lastFilled = s.last ∧ s'.last = min (shrinkLast cfg.k col' s.last) ref.length ∧
    (1 ≤ s.last → s'.origin = (col'.getD s.last default).origin) ∧
    ((s'.best = s.best ∧ s'.done = false) ∨
     (cfg.stopInQuery = true ∧ s.last = ref.length ∧ (col'.getD ref.length default).cost ≤ cfg.k ∧
      rowUpd cfg ref ref.length s.best (col'.getD ref.length default) = true ∧
      s'.best = ⟨(col'.getD ref.length default).origin, (col'.getD ref.length default).cost,
        (col'.getD ref.length default).score, ref.length, j+1, true⟩ ∧
      s'.done = ((col'.getD ref.length default).cost == 0 && decide ((col'.getD ref.length default).origin ≥ 0)))) := by
  subst hs
  unfold stepAt
  rw [columnLoop_eq hd hcol]
  have hle := shrinkLast_le cfg.k col' s.last
  split
  · next h => exact ⟨rfl, rfl, (Nat.min_eq_left (Nat.le_of_lt_succ h)).symm, fun h => if_pos h, .inl ⟨rfl, rfl⟩⟩
  · next h =>
    have h2 : s.last = ref.length := by omega
    have h1 : (col'.getD ref.length default).cost ≤ cfg.k := by
      rw [← h2]; exact (shrinkLast_eq_succ _ _ _).mp (by omega)
    have h3 : ref.length = min (shrinkLast cfg.k col' s.last) ref.length :=
      (Nat.min_eq_right (Nat.le_of_succ_le (Nat.le_of_not_lt h))).symm
    split
    · next hsq =>
      split
      · next hupd => exact ⟨rfl, rfl, h3, fun _ => by rw [h2], .inr ⟨hsq, h2, h1, hupd, rfl, rfl⟩⟩
      · exact ⟨rfl, rfl, h3, fun _ => by rw [h2], .inl ⟨rfl, rfl⟩⟩
    · exact ⟨rfl, rfl, h3, fun h => if_pos h, .inl ⟨rfl, rfl⟩⟩

/-- where the band reaches the last row and the query end may be skipped, the update rule alone decides -/
theorem stepAt_row (hd : s.done = false) (hsq : cfg.stopInQuery = true) (hlast : s.last = ref.length)
    (hcol : colAt cfg ref query s j hj = col') (hs : stepAt cfg ref query s j hj = s')
    (hk : (col'.getD ref.length default).cost ≤ cfg.k) :
    (rowUpd cfg ref ref.length s.best (col'.getD ref.length default) = true →
      s'.best = ⟨(col'.getD ref.length default).origin, (col'.getD ref.length default).cost,
        (col'.getD ref.length default).score, ref.length, j+1, true⟩ ∧
      s'.done = ((col'.getD ref.length default).cost == 0 && decide ((col'.getD ref.length default).origin ≥ 0))) ∧
    (rowUpd cfg ref ref.length s.best (col'.getD ref.length default) = false → s'.best = s.best ∧ s'.done = false) := by
  subst hs
  unfold stepAt
  rw [columnLoop_eq hd hcol, hlast, (shrinkLast_eq_succ _ _ _).mpr hk, if_neg (Nat.lt_irrefl _), if_pos hsq]
  constructor
  · intro h
    rw [if_pos h]
    exact ⟨rfl, rfl⟩
  · intro h
    rw [h]
    exact ⟨rfl, rfl⟩

end step

section search
variable (cfg : Cfg) (ref : Bytes) (m n : Nat) (col : List Entry) (so : Int)

/-- does the last-column candidate `e` in row `i` replace `best`? -/
def colUpd (i : Nat) (best : Best) (e : Entry) : Bool :=
  accB cfg ref m i e && (!best.found
    || (decide (so ≤ best.origin + ((m / 2 : Nat) : Int)) && decide (e.score > best.score))
    || (decide (((toNatI ((i : Int) + min e.origin 0) : Nat) : Int) > (best.refStop : Int) + min best.origin 0)
        && decide (e.score > best.score)))

def lcsStep (i : Nat) (best : Best) : Best :=
  if colUpd cfg ref m so i best (col.getD i default) then
    ⟨(col.getD i default).origin, (col.getD i default).cost, (col.getD i default).score, i, n, true⟩
  else best

theorem go_zero (firstI i : Nat) (best : Best) :
    lastColumnSearch.go cfg ref m n col so firstI 0 i best = best := by
  unfold lastColumnSearch.go; rfl

theorem go_succ (firstI fuel i : Nat) (best : Best) :
    lastColumnSearch.go cfg ref m n col so firstI (fuel+1) i best =
      if i < firstI then best
      else if i == 0 then lcsStep cfg ref m n col so i best
      else lastColumnSearch.go cfg ref m n col so firstI fuel (i-1) (lcsStep cfg ref m n col so i best) := by
  rw [lastColumnSearch.go]
  rfl

variable {cfg ref m n col so}

theorem accB_of_colUpd {i : Nat} {best : Best} {e : Entry} (h : colUpd cfg ref m so i best e = true) :
    accB cfg ref m i e = true := by
  unfold colUpd at h
  rw [Bool.and_eq_true] at h
  exact h.1

theorem colUpd_of_not_found {i : Nat} {best : Best} {e : Entry} (hf : best.found = false) :
    colUpd cfg ref m so i best e = accB cfg ref m i e := by
  unfold colUpd
  rw [hf]; simp

/-- the rule of the last-column search against a recorded match: as `rowUpd_found`, but the candidate's start is read
    from `so`, the origin the loop left behind -/
theorem colUpd_found {i : Nat} {best : Best} {e : Entry} (hf : best.found = true) :
    colUpd cfg ref m so i best e = true ↔ accB cfg ref m i e = true ∧ best.score < e.score ∧
      (so ≤ best.origin + ((m / 2 : Nat) : Int) ∨
        (best.refStop : Int) + min best.origin 0 < ((toNatI ((i : Int) + min e.origin 0) : Nat) : Int)) := by
  unfold colUpd
  rw [hf]
  simp only [Bool.not_true, Bool.false_or, Bool.and_eq_true, Bool.or_eq_true, decide_eq_true_eq]
  exact upd_shape

theorem go_ind (firstI i0 : Nat) (P : Best → Prop)
    (hnew : ∀ i b, firstI ≤ i → i ≤ i0 → P b → colUpd cfg ref m so i b (col.getD i default) = true →
      P ⟨(col.getD i default).origin, (col.getD i default).cost, (col.getD i default).score, i, n, true⟩) :
    ∀ (fuel i : Nat) (best : Best), i ≤ i0 → P best → P (lastColumnSearch.go cfg ref m n col so firstI fuel i best)
  | 0, i, best, _, hb => by rw [go_zero]; exact hb
  | fuel+1, i, best, hi, hb => by
    rw [go_succ]
    split
    · exact hb
    · next hlt =>
      have hstep : P (lcsStep cfg ref m n col so i best) := by
        unfold lcsStep
        split
        · next hc => exact hnew i best (by omega) hi hb hc
        · exact hb
      split
      · exact hstep
      · exact go_ind firstI i0 P hnew fuel (i-1) _ (by omega) hstep

/-- a recorded match that scores `m` is never replaced: no cell scores more than its row -/
theorem go_done (firstI : Nat)
    (hscore : ∀ i, i ≤ m → (col.getD i default).score ≤ (i : Int)) (fuel i : Nat) (best : Best) (hi : i ≤ m)
    (hf : best.found = true) (hs : (m : Int) ≤ best.score) :
    lastColumnSearch.go cfg ref m n col so firstI fuel i best = best := by
  refine go_ind firstI i (· = best) (fun r b _ hr hb hupd => ?_) fuel i best (Nat.le_refl _) rfl
  exfalso
  rw [hb] at hupd
  obtain ⟨_, hlt, _⟩ := (colUpd_found hf).mp hupd
  have := hscore r (by omega)
  omega

end search

def minNOf (cfg : Cfg) (m n : Nat) : Nat := if !cfg.stopInQuery then n - (m + cfg.k) else 0
def maxNOf (cfg : Cfg) (m n : Nat) : Nat := if !cfg.startInQuery then min n (m + cfg.k) else n

theorem minNOf_le (cfg : Cfg) (m n : Nat) : minNOf cfg m n ≤ n := by unfold minNOf; split <;> omega
theorem maxNOf_le (cfg : Cfg) (m n : Nat) : maxNOf cfg m n ≤ n := by unfold maxNOf; split <;> omega

theorem minNOf_stopInQuery {cfg : Cfg} (h : cfg.stopInQuery = true) (m n : Nat) : minNOf cfg m n = 0 := by
  unfold minNOf; simp [h]

def initState (cfg : Cfg) (m n : Nat) : LoopState :=
  ⟨(List.range (m+1)).map (initEntry cfg (minNOf cfg m n)),
   if cfg.startInRef then m else min m (cfg.k + 1), ⟨0, m + n + 1, 0, m, n, false⟩, 0, 0, false⟩

theorem initState_col_getD (cfg : Cfg) {m i : Nat} (n : Nat) (hi : i ≤ m) :
    (initState cfg m n).col.getD i default = initEntry cfg (minNOf cfg m n) i := by
  show ((List.range (m+1)).map _).getD i default = _
  rw [List.getD_eq_getElem?_getD, List.getElem?_map, List.getElem?_range (by omega)]
  rfl

/-- the state after the column loop -/
def finalState (cfg : Cfg) (ref query : Bytes) : LoopState :=
  (((List.range query.length).zip (encodeQuery cfg query)).filterMap
      (fun (j0, q) => if minNOf cfg ref.length query.length ≤ j0 && j0 < maxNOf cfg ref.length query.length
        then some (j0+1, q) else none)).foldl
    (columnLoop cfg (compareAscii cfg) (encodeRef cfg ref) ref ref.length) (initState cfg ref.length query.length)

/-- a fold over the selected positions of a list is a loop over all its positions with a conditional body -/
theorem foldl_filterMap_zip {σ : Type} (f : σ → Nat × UInt8 → σ) (c : Nat → Bool) (Q : Nat → σ → Prop) (qE : List UInt8)
    (hstep : ∀ a s (ha : a < qE.length), Q a s → Q (a+1) (if c a then f s (a+1, qE[a]) else s)) :
    ∀ (qs : List UInt8) (a : Nat) (s : σ), qs = qE.drop a → Q a s →
      Q (a + qs.length) (List.foldl f s (((List.range' a qs.length).zip qs).filterMap
        (fun (j0, q) => if c j0 then some (j0+1, q) else none)))
  | [], _, _, _, h => h
  | q :: qs, a, s, hqs, h => by
    have ha : a < qE.length := by
      apply Nat.lt_of_not_le; intro hge
      rw [List.drop_eq_nil_of_le hge] at hqs; cases hqs
    rw [List.drop_eq_getElem_cons ha] at hqs
    obtain ⟨rfl, hqs'⟩ := List.cons.inj hqs
    have ih := foldl_filterMap_zip f c Q qE hstep qs (a+1) _ hqs' (hstep a s ha h)
    rw [List.length_cons, ← Nat.add_assoc, Nat.add_right_comm a]
    simp only [List.range'_succ, List.zip_cons_cons, List.filterMap_cons]
    cases hc : c a
    · rw [hc, if_neg Bool.false_ne_true] at ih
      rw [if_neg Bool.false_ne_true]
      exact ih
    · rw [hc, if_pos rfl] at ih
      rw [if_pos rfl, List.foldl_cons]
      exact ih

/-- a fold over the positions `lo ≤ j < hi` of a list -/
theorem foldl_window {σ : Type} (f : σ → Nat × UInt8 → σ) (P : Nat → σ → Prop) (lo hi : Nat) (qE : List UInt8) (s0 : σ)
    (hhi : hi ≤ qE.length) (h0 : P lo s0)
    (hstep : ∀ j s (hj : j < qE.length), lo ≤ j → j < hi → P j s → P (j+1) (f s (j+1, qE[j]))) :
    P (max lo hi) (List.foldl f s0 (((List.range qE.length).zip qE).filterMap
      (fun (j0, q) => if lo ≤ j0 && j0 < hi then some (j0+1, q) else none))) := by
  -- when position `a` has been passed, the state belongs to column `a` cut off to the window
  have hpass : ∀ a s (ha : a < qE.length), P (max lo (min a hi)) s →
      P (max lo (min (a+1) hi)) (if (decide (lo ≤ a) && decide (a < hi)) = true then f s (a+1, qE[a]) else s) := by
    intro a s ha h
    by_cases hc : lo ≤ a ∧ a < hi
    · rw [if_pos (by simp [hc]), Nat.min_eq_left hc.2, Nat.max_eq_right (Nat.le_succ_of_le hc.1)]
      rw [Nat.min_eq_left (Nat.le_of_lt hc.2), Nat.max_eq_right hc.1] at h
      exact hstep a s ha hc.1 hc.2 h
    · rw [if_neg (by simp only [Bool.and_eq_true, decide_eq_true_eq]; exact hc)]
      -- outside the window the column does not move: `a` is left of `lo`, or at or right of `hi`
      rcases Nat.lt_or_ge a lo with h1 | h1
      · rw [Nat.max_eq_left (Nat.le_trans (Nat.min_le_left _ _) h1)]
        rw [Nat.max_eq_left (Nat.le_trans (Nat.min_le_left _ _) (Nat.le_of_lt h1))] at h
        exact h
      · have h2 : hi ≤ a := Nat.le_of_not_lt fun h2 => hc ⟨h1, h2⟩
        rw [Nat.min_eq_right (Nat.le_succ_of_le h2)]
        rw [Nat.min_eq_right h2] at h
        exact h
  have hfold := foldl_filterMap_zip f (fun j0 => decide (lo ≤ j0) && decide (j0 < hi))
    (fun a s => P (max lo (min a hi)) s) qE hpass qE 0 s0 (by simp) (by rw [Nat.zero_min, Nat.max_zero]; exact h0)
  rw [Nat.zero_add, Nat.min_eq_right hhi, ← List.range_eq_range'] at hfold
  exact hfold

/-- the loop ends at column `maxNOf`, or does not start -/
theorem finalState_ind (cfg : Cfg) (ref query : Bytes) (P : Nat → LoopState → Prop)
    (h0 : P (minNOf cfg ref.length query.length) (initState cfg ref.length query.length))
    (hstep : ∀ j s (hj : j < query.length), minNOf cfg ref.length query.length ≤ j →
      j < maxNOf cfg ref.length query.length → P j s →
      P (j+1) (stepAt cfg ref query s j hj)) :
    P (max (minNOf cfg ref.length query.length) (maxNOf cfg ref.length query.length)) (finalState cfg ref query) := by
  have hn := encodeQuery_length cfg query
  have := foldl_window (columnLoop cfg (compareAscii cfg) (encodeRef cfg ref) ref ref.length) P
    (minNOf cfg ref.length query.length) (maxNOf cfg ref.length query.length) (encodeQuery cfg query)
    (initState cfg ref.length query.length) (by rw [hn]; exact maxNOf_le ..) h0
    (fun j s hj h1 h2 hP => hstep j s (by rw [← hn]; exact hj) h1 h2 hP)
  rw [hn] at this
  exact this

end Cutadapt.Align.Exact

namespace Cutadapt.Align.Sound
open Cutadapt Cutadapt.Align Cutadapt.Spec Cutadapt.Generated Cutadapt.Align.Exact

/-- a cost within the tolerance of an effective length is within `k` -/
theorem cost_le_k {cfg : Cfg} {ref : Bytes} (hwf : cfg.WF ref.length) {a b len e : Nat} (hlen : len ≤ ref.length)
    (h : e ≤ cfg.thr (effLen cfg ref ref.length a b len)) : e ≤ cfg.k := by
  rw [hwf.k_eq]
  exact Nat.le_trans h (hwf.thr_mono _ _ (Nat.le_trans (effLen_le_length ..) hlen))

theorem sound_of_accept {cfg : Cfg} {ref query : Bytes} (hwf : cfg.WF ref.length) {i j : Nat} {e : Entry}
    (hi : i ≤ ref.length) (hj : j ≤ query.length)
    (hg : GoodK (mkCtx cfg ref query) i j e)
    (hstop : i = ref.length ∨ j = query.length) (hsr : cfg.stopInRef = false → i = ref.length)
    (hsq : cfg.stopInQuery = false → j = query.length)
    (hacc : accB cfg ref ref.length i e = true) :
    SoundResult cfg ref query (decode e.origin).1 i (decode e.origin).2 j e.cost := by
  obtain ⟨hov, htol⟩ := accB_iff.mp hacc
  have hk := cost_le_k hwf (by omega) htol
  obtain ⟨h1, h2, h3, h4, hs⟩ := hg hk
  exact {
    h_as := h1
    h_ae := hi
    h_rs := h2
    h_re := hj
    startRef := fun hf => h3.resolve_right (by rw [show (mkCtx cfg ref query).cfg = cfg from rfl, hf]; simp)
    startQuery := fun hf => h4.resolve_right (by rw [show (mkCtx cfg ref query).cfg = cfg from rfl, hf]; simp)
    startOne := decode_one _
    stopRef := hsr
    stopQuery := hsq
    stopOne := hstop
    overlap := hov
    script := hs
    tolerance := htol }

def BestInv (cfg : Cfg) (ref query : Bytes) (b : Best) : Prop :=
  b.found = true →
    SoundResult cfg ref query (decode b.origin).1 b.refStop (decode b.origin).2 b.queryStop b.cost

/-- loop invariant: `s` describes the DP column for query prefix length `j` (unless the loop has stopped early) -/
structure Inv (cfg : Cfg) (ref query : Bytes) (j : Nat) (s : LoopState) : Prop where
  best : BestInv cfg ref query s.best
  last_le : s.last ≤ ref.length
  filled_le : s.lastFilled ≤ ref.length
  score : ∀ i, i ≤ ref.length → ScoreOK i (s.col.getD i default)
  col : s.done = false → ColInv (mkCtx cfg ref query) j s.last s.col
  doneBest : s.done = true → s.best.found = true ∧ (ref.length : Int) ≤ s.best.score

theorem ColInv.cell {cfg : Cfg} {ref query : Bytes} {j last : Nat} {col : List Entry}
    (h : ColInv (mkCtx cfg ref query) j last col) {i : Nat} (hi : i ≤ ref.length) :
    CellInv (mkCtx cfg ref query) j last i (col.getD i default) :=
  h.cells i (by rw [mkCtx_ref_length]; exact hi)

theorem Inv.stepCol {cfg : Cfg} {ref query : Bytes} (hwf : cfg.WF ref.length) {j : Nat} {s : LoopState}
    (h : Inv cfg ref query j s) (hd : s.done = false) (hj : j < query.length) :
    ColInv (mkCtx cfg ref query) (j+1) s.last (colAt cfg ref query s j hj) :=
  stepColumn_inv (ctx := mkCtx cfg ref query) hwf.indel_pos (by rw [mkCtx_query_length]; exact hj) (h.col hd)

theorem columnLoop_inv {cfg : Cfg} {ref query : Bytes} (hwf : cfg.WF ref.length) {j : Nat}
    (hj : j < query.length) {s : LoopState} (h : Inv cfg ref query j s) :
    Inv cfg ref query (j+1) (stepAt cfg ref query s j hj) := by
  cases hd : s.done
  case true =>
    rw [stepAt_done hd]
    exact ⟨h.best, h.last_le, h.filled_le, h.score, fun h' => (by rw [hd] at h'; cases h'), h.doneBest⟩
  case false =>
    have hstep := h.stepCol hwf hd hj
    obtain ⟨f1, f2, f3, _, f5⟩ := stepAt_spec hd h.last_le rfl rfl
    -- the last-row cell of the new column: the only candidate this step may record
    obtain ⟨hmGood, ⟨_, hmScore⟩, _⟩ := hstep.cell (Nat.le_refl ref.length)
    refine { best := ?_, last_le := ?_, filled_le := ?_, score := ?_, col := fun _ => ?_, doneBest := ?_ }
    · rcases f5 with ⟨hb, _⟩ | ⟨hsq, _, _, hupd, hb, _⟩
      · rw [hb]
        exact h.best
      · rw [hb]
        exact fun _ => sound_of_accept hwf (Nat.le_refl _) hj hmGood (.inl rfl) (fun _ => rfl)
          (fun hf => by rw [hsq] at hf; cases hf) (accB_of_rowUpd hupd)
    · rw [f3]
      exact Nat.min_le_right _ _
    · rw [f2]
      exact h.last_le
    · intro i hi
      rw [f1]
      exact (hstep.cell hi).2.1
    · rw [f1, f3, ← mkCtx_ref_length cfg ref query]
      exact colInv_shrink hstep
    · rcases f5 with ⟨_, hdn⟩ | ⟨_, _, _, _, hb, hdn⟩
      · intro h'
        rw [hdn] at h'
        cases h'
      · -- the loop stops on a candidate of cost 0 with origin ≥ 0: such a cell scores its row, `m`
        rw [hb, hdn]
        intro hdone
        simp only [Bool.and_eq_true, beq_iff_eq, decide_eq_true_eq] at hdone
        have := hmScore hdone.1
        exact ⟨rfl, by simp only; omega⟩

theorem initState_inv {cfg : Cfg} {ref query : Bytes} (hwf : cfg.WF ref.length) :
    Inv cfg ref query (minNOf cfg ref.length query.length) (initState cfg ref.length query.length) := by
  refine { best := ?_, last_le := ?_, filled_le := Nat.zero_le _, score := ?_, col := fun _ => ⟨?_, ?_⟩, doneBest := ?_ }
  · intro hf
    cases hf
  · show (if cfg.startInRef then ref.length else min ref.length (cfg.k + 1)) ≤ ref.length
    split
    · exact Nat.le_refl _
    · exact Nat.min_le_left _ _
  · intro i hi
    rw [initState_col_getD _ _ hi]
    exact initEntry_score hwf.indel_pos i _
  · show ((List.range (ref.length + 1)).map _).length = _
    rw [List.length_map, List.length_range, mkCtx_ref_length]
  · intro i hi
    rw [mkCtx_ref_length] at hi
    rw [initState_col_getD _ _ hi]
    refine ⟨fun _ => ?_, initEntry_score hwf.indel_pos i _, fun hlt => ?_⟩
    · exact initEntry_good (ctx := mkCtx cfg ref query) hwf.indel_pos (by rw [mkCtx_ref_length]; exact hi)
        (by rw [mkCtx_query_length]; exact minNOf_le ..)
    · exact initEntry_beyond hwf.indel_pos _ (Nat.le_of_lt hlt) (Nat.lt_of_lt_of_le hlt hi)
  · intro hd
    cases hd

end Cutadapt.Align.Sound

namespace Cutadapt.Align.Exact
open Cutadapt Cutadapt.Align Cutadapt.Spec Cutadapt.Generated Cutadapt.Align.Sound

theorem finalState_inv_max {cfg : Cfg} {ref query : Bytes} (hwf : cfg.WF ref.length) :
    Inv cfg ref query (max (minNOf cfg ref.length query.length) (maxNOf cfg ref.length query.length))
      (finalState cfg ref query) :=
  finalState_ind cfg ref query (Inv cfg ref query) (initState_inv hwf) (fun _ _ hj _ _ hP => columnLoop_inv hwf hj hP)

/-- the soundness invariant holds at the end of the loop -/
theorem finalState_inv {cfg : Cfg} {ref query : Bytes} (hwf : cfg.WF ref.length)
    (hle : minNOf cfg ref.length query.length ≤ maxNOf cfg ref.length query.length) :
    Inv cfg ref query (maxNOf cfg ref.length query.length) (finalState cfg ref query) :=
  Nat.max_eq_right hle ▸ finalState_inv_max hwf

end Cutadapt.Align.Exact
