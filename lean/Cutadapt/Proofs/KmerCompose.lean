import Cutadapt.Properties.C07
import Cutadapt.Proofs.AlignSoundMain
/-! Composition of C07's partial theorem with the aligner's soundness theorem (C01, `Cutadapt.Align.locate_sound`):
    the hypothesis `hsound` of `C07.prefilter_safe_partial` is discharged, so that `Properties/C07.lean` itself does not
    depend on the proof of C01. -/
namespace Cutadapt.C07
open Cutadapt Cutadapt.Kmer Cutadapt.Adapters Cutadapt.Align

theorem locateSound_of_ok (a : Adapter) (hok : AdapterOK a) (flags : Nat) :
    LocateSound (alignerCfg a flags) a.seq.length := by
  intro ref query as ae rs re sc e hlen h
  refine locate_sound (alignerCfg a flags) ref query ⟨?_, hok.thr_ok.mono, ?_⟩ h
  · exact indelCost_pos a
  · rw [hlen]; rfl

/-- `prefilter_safe_partial` without the soundness hypothesis -/
theorem prefilter_safe_partial_unconditional (a : Adapter) (hok : AdapterOK a) (read beyond : Bytes)
    (hdom : asciiNoNul read = true) : matchToFiltered a read beyond = matchTo a read :=
  prefilter_safe_partial a hok (locateSound_of_ok a hok (flagsOf a)) read beyond hdom

end Cutadapt.C07
