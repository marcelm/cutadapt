import Cutadapt.Qualtrim
import Cutadapt.Proofs.FirstMax
/-! Invariant of the poly-A/poly-T scan `polyGo` (used by C14). Core Lean only. -/
namespace Cutadapt.Qualtrim

/-- +1 for the homopolymer character, −2 for any other -/
def pval (hit c : UInt8) : Int := if c == hit then 1 else -2
def perr (hit c : UInt8) : Nat := if c == hit then 0 else 1

/-- score after visiting the first `t` characters, starting from score `s0` -/
def scoreAt (hit : UInt8) (s0 : Int) (cs : List UInt8) (t : Nat) : Int := s0 + ((cs.take t).map (pval hit)).sum
/-- number of other characters among the first `t`, starting from `e0` -/
def errAt (hit : UInt8) (e0 : Nat) (cs : List UInt8) (t : Nat) : Nat := e0 + ((cs.take t).map (perr hit)).sum

theorem scoreAt_cons (hit s0 c cs t) : scoreAt hit s0 (c :: cs) (t+1) = scoreAt hit (s0 + pval hit c) cs t := by
  rw [scoreAt, scoreAt, List.take_succ_cons, List.map_cons, List.sum_cons, Int.add_assoc]
theorem errAt_cons (hit e0 c cs t) : errAt hit e0 (c :: cs) (t+1) = errAt hit (e0 + perr hit c) cs t := by
  rw [errAt, errAt, List.take_succ_cons, List.map_cons, List.sum_cons, Nat.add_assoc]
@[simp] theorem scoreAt_zero (hit s0 cs) : scoreAt hit s0 cs 0 = s0 := by simp [scoreAt]
@[simp] theorem errAt_zero (hit e0 cs) : errAt hit e0 cs 0 = e0 := by simp [errAt]

/-- at most 20 % other characters among the `j + t` characters visited -/
def ValidAt (hit : UInt8) (j e0 : Nat) (cs : List UInt8) (t : Nat) : Prop := errAt hit e0 cs t * 5 ≤ j + t

theorem polyGo_step (hit c : UInt8) (cs : List UInt8) (j : Nat) (score : Int) (errors : Nat) (bestScore : Int) (best : Nat) :
    polyGo hit (c :: cs) j score errors bestScore best =
      if score + pval hit c > bestScore ∧ (errors + perr hit c) * 5 ≤ j + 1
      then polyGo hit cs (j+1) (score + pval hit c) (errors + perr hit c) (score + pval hit c) (j+1)
      else polyGo hit cs (j+1) (score + pval hit c) (errors + perr hit c) bestScore best := by
  rw [polyGo, pval, perr]
  cases c == hit <;> rfl

theorem scoreAt_succ {ws cs : List UInt8} {c : UInt8} {j : Nat} (hit : UInt8) (s0 : Int) (h : ws.drop j = c :: cs) :
    scoreAt hit s0 ws (j+1) = scoreAt hit s0 ws j + pval hit c := by
  simp [scoreAt, take_succ_of_drop h, Int.add_assoc]

theorem errAt_succ {ws cs : List UInt8} {c : UInt8} {j : Nat} (hit : UInt8) (e0 : Nat) (h : ws.drop j = c :: cs) :
    errAt hit e0 ws (j+1) = errAt hit e0 ws j + perr hit c := by
  simp [errAt, take_succ_of_drop h, Nat.add_assoc]

theorem ValidAt.zero (hit : UInt8) (cs : List UInt8) : ValidAt hit 0 0 cs 0 := Nat.le_refl 0

/-- Loop invariant over the whole list `ws`: after `j` characters `score`, `errors` are those of the first `j`, and `best`,
    `bestScore` are the first maximiser so far and its score. -/
theorem polyGo_spec (hit : UInt8) (ws : List UInt8) : ∀ (cs : List UInt8) (j best : Nat), ws.drop j = cs → j ≤ ws.length →
    FirstMax (ValidAt hit 0 0 ws) (scoreAt hit 0 ws) j best →
    FirstMax (ValidAt hit 0 0 ws) (scoreAt hit 0 ws) ws.length
      (polyGo hit cs j (scoreAt hit 0 ws j) (errAt hit 0 ws j) (scoreAt hit 0 ws best) best) := by
  intro cs
  induction cs with
  | nil =>
    intro j best hd hj h
    rw [← eq_length_of_drop hd hj]; exact h
  | cons c cs ih =>
    intro j best hd _ h
    have ih := fun best => ih (j+1) best (drop_succ_of_drop hd) (lt_length_of_drop hd)
    have hv : ValidAt hit 0 0 ws (j+1) ↔ errAt hit 0 ws (j+1) * 5 ≤ j + 1 := by rw [ValidAt, Nat.zero_add]
    rw [polyGo_step, ← scoreAt_succ hit 0 hd, ← errAt_succ hit 0 hd]
    split
    next hup => exact ih (j+1) (h.step_new (hv.mpr hup.2) hup.1)
    next hup => exact ih best (h.step_keep fun ha => Int.not_lt.mp fun hlt => hup ⟨hlt, hv.mp ha⟩)

/-- `polyBest` is the *smallest* `t` among the valid visit counts that maximises the score; `t = 0` is valid and scores 0,
    so the result is 0 unless some valid count has a positive score. -/
theorem polyBest_spec (hit : UInt8) (cs : List UInt8) :
    FirstMax (ValidAt hit 0 0 cs) (scoreAt hit 0 cs) cs.length (polyBest hit cs) := by
  have := polyGo_spec hit cs cs 0 0 rfl (Nat.zero_le _) (.zero (.zero hit cs))
  rwa [scoreAt_zero, errAt_zero] at this

theorem polyBest_pos (hit : UInt8) (cs : List UInt8) (h : 0 < polyBest hit cs) : 0 < scoreAt hit 0 cs (polyBest hit cs) := by
  have := (polyBest_spec hit cs).first 0 h (.zero hit cs)
  rwa [scoreAt_zero] at this

/-- The 3' variant scans the reversed string: in positions `i = n - t` counted from the 5' end, with the side condition
    and the score read as `A'` and `f'` there, `n - polyBest` is the *last* maximiser. -/
theorem polyBest_reflect (hit : UInt8) (s : List UInt8) {A' : Nat → Prop} {f' : Nat → Int}
    (hA : ∀ t, t ≤ s.length → (ValidAt hit 0 0 s.reverse t ↔ A' (s.length - t)))
    (hf : ∀ t, scoreAt hit 0 s.reverse t = f' (s.length - t)) :
    polyBest hit s.reverse ≤ s.length ∧ A' (s.length - polyBest hit s.reverse) ∧
    (0 < polyBest hit s.reverse → 0 < f' (s.length - polyBest hit s.reverse)) ∧
    (∀ i, i ≤ s.length → A' i → f' i ≤ f' (s.length - polyBest hit s.reverse)) ∧
    (∀ i, s.length - polyBest hit s.reverse < i → i ≤ s.length → A' i →
      f' i < f' (s.length - polyBest hit s.reverse)) := by
  have hb := polyBest_spec hit s.reverse
  rw [List.length_reverse] at hb
  obtain ⟨_, h2, h3, h4⟩ := hb.reflect hA (fun t _ => hf t)
  have hpos := polyBest_pos hit s.reverse
  rw [hf] at hpos
  exact ⟨hb.le, h2, hpos, h3, h4⟩

end Cutadapt.Qualtrim
