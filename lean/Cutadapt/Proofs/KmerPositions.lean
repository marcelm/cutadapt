import Cutadapt.Proofs.KmerLevels
/-! `create_positions_and_kmers`: what `minimize_kmer_search_list` and `remove_redundant_kmers` keep of the search sets (a k-mer
    stays searched, in a window that contains every window it had; the `(0, None)` entry is untouched), absence of the
    `NotImplementedError` path, and no empty k-mer in the tables. -/
namespace Cutadapt.Kmer
open Cutadapt

theorem mapE_eq_ok {f : α → Except ε β} {l : List α} {r : List β} (h : mapE f l = .ok r) :
    (∀ x ∈ l, ∃ y, f x = .ok y ∧ y ∈ r) ∧ (∀ y ∈ r, ∃ x ∈ l, f x = .ok y) := by
  induction l generalizing r with
  | nil => simp [mapE] at h; subst h; simp
  | cons x xs ih =>
    simp only [mapE] at h
    split at h
    · cases h
    · rename_i y hy
      split at h
      · cases h
      · rename_i ys hys
        cases h
        obtain ⟨ih1, ih2⟩ := ih hys
        simp only [List.forall_mem_cons]
        refine ⟨⟨⟨y, hy, List.mem_cons_self⟩, fun x' hx' => ?_⟩, ⟨x, List.mem_cons_self, hy⟩, fun y' hy' => ?_⟩
        · obtain ⟨y', h1, h2⟩ := ih1 x' hx'
          exact ⟨y', h1, List.mem_cons_of_mem _ h2⟩
        · obtain ⟨x', h1, h2⟩ := ih2 y' hy'
          exact ⟨x', List.mem_cons_of_mem _ h1, h2⟩

theorem mapE_all_ok {f : α → Except ε β} {l : List α} (h : ∀ x ∈ l, ∃ y, f x = .ok y) : ∃ r, mapE f l = .ok r := by
  induction l with
  | nil => exact ⟨[], rfl⟩
  | cons x xs ih =>
    obtain ⟨y, hy⟩ := h x (by simp)
    obtain ⟨ys, hys⟩ := ih (fun x' hx' => h x' (by simp [hx']))
    exact ⟨y :: ys, by simp [mapE, hy, hys]⟩

theorem posLt_tri (p q : Pos) (h1 : posLt p q = false) (h2 : posLt q p = false) : p = q := by
  obtain ⟨a, b⟩ := p
  obtain ⟨c, d⟩ := q
  simp only [posLt, Bool.or_eq_false_iff, decide_eq_false_iff_not, Bool.and_eq_false_imp, beq_iff_eq] at h1 h2
  have hac : a = c := by omega
  subst hac
  have h1' := h1.2 rfl
  have h2' := h2.2 rfl
  cases b <;> cases d <;> simp at h1' h2' ⊢
  omega

theorem minInt_mem (l : List Int) (d : Int) : minInt l d ∈ d :: l := by
  induction l generalizing d with
  | nil => exact List.mem_singleton.mpr rfl
  | cons a l ih =>
    show minInt l (min d a) ∈ d :: a :: l
    rcases List.mem_cons.mp (ih (min d a)) with h | h
    · rw [h]
      rcases Int.le_total d a with hda | hda
      · rw [Int.min_eq_left hda]; exact List.mem_cons_self
      · rw [Int.min_eq_right hda]; exact List.mem_cons_of_mem _ List.mem_cons_self
    · exact List.mem_cons_of_mem _ (List.mem_cons_of_mem _ h)

/-- a fold of `op` is related to its start value and to every element folded in, when `op d a` is related to `d` and to `a`
    (`min` with `≤`, `max` with `≥`) -/
theorem foldl_rel {R : α → α → Prop} {op : α → α → α} (hrefl : ∀ a, R a a) (htrans : ∀ {a b c}, R a b → R b c → R a c)
    (hl : ∀ a b, R (op a b) a) (hr : ∀ a b, R (op a b) b) (l : List α) (d : α) :
    ∀ x ∈ d :: l, R (l.foldl op d) x := by
  induction l generalizing d with
  | nil =>
    intro x hx
    rw [List.mem_singleton.mp hx]
    exact hrefl d
  | cons a l ih =>
    intro x hx
    have h0 : R (l.foldl op (op d a)) (op d a) := ih _ _ List.mem_cons_self
    rcases List.mem_cons.mp hx with rfl | hx
    · exact htrans h0 (hl ..)
    · rcases List.mem_cons.mp hx with rfl | hx
      · exact htrans h0 (hr ..)
      · exact ih _ x (List.mem_cons_of_mem _ hx)

theorem minInt_le (l : List Int) (d : Int) : ∀ x ∈ d :: l, minInt l d ≤ x :=
  foldl_rel (R := (· ≤ ·)) Int.le_refl Int.le_trans Int.min_le_left Int.min_le_right l d

theorem le_maxInt (l : List Int) (d : Int) : ∀ x ∈ d :: l, x ≤ maxInt l d :=
  foldl_rel (R := (· ≥ ·)) Int.le_refl (fun h1 h2 => Int.le_trans h2 h1) Int.le_max_left Int.le_max_right l d

theorem minimizeOne_ok {positions : List Pos} (h : ∀ p ∈ positions, p.1 = 0 ∨ p.2 = none) :
    ∃ ps, minimizeOne positions = .ok ps := by
  unfold minimizeOne
  split
  · exact ⟨_, rfl⟩
  · split
    · exact ⟨_, rfl⟩
    · have : positions.filter (fun p => p.1 != 0 && p.2.isSome) = [] := by
        rw [List.filter_eq_nil_iff]
        intro p hp
        rcases h p hp with h | h <;> simp [h]
      simp only [this]
      exact ⟨_, rfl⟩

theorem minimizeOne_zero_none {positions : List Pos} (h : ((0 : Int), (none : Option Int)) ∈ positions) :
    minimizeOne positions = .ok [(0, none)] := by
  unfold minimizeOne
  split
  · rw [List.mem_singleton.mp h]
  · rw [if_pos (List.contains_iff_mem.mpr h)]

/-- What `minimize_kmer_search_list` keeps for one k-mer: the whole-sequence search `(0, None)` iff it was there; for every
    3' search one that starts no later (or at 0), for every 5' search one that stops no earlier (or not at all). -/
theorem minimizeOne_spec {positions ps : List Pos} (h : minimizeOne positions = .ok ps) :
    (((0 : Int), (none : Option Int)) ∈ ps ↔ ((0 : Int), (none : Option Int)) ∈ positions) ∧
    (∀ s : Int, (s, (none : Option Int)) ∈ positions → ∃ s', (s', (none : Option Int)) ∈ ps ∧ (s' = 0 ∨ s' ≤ s)) ∧
    (∀ t : Int, ((0 : Int), some t) ∈ positions →
      ((0 : Int), (none : Option Int)) ∈ ps ∨ ∃ t', ((0 : Int), some t') ∈ ps ∧ t ≤ t') := by
  by_cases hc : ((0 : Int), (none : Option Int)) ∈ positions
  · rw [minimizeOne_zero_none hc] at h
    cases h
    exact ⟨⟨fun _ => hc, fun _ => List.mem_singleton.mpr rfl⟩, fun s _ => ⟨0, List.mem_singleton.mpr rfl, Or.inl rfl⟩,
      fun t _ => Or.inl (List.mem_singleton.mpr rfl)⟩
  · unfold minimizeOne at h
    split at h
    · cases h
      exact ⟨Iff.rfl, fun s hs => ⟨s, hs, Or.inr (Int.le_refl _)⟩, fun t ht => Or.inr ⟨t, ht, Int.le_refl _⟩⟩
    · have hc' : positions.contains ((0 : Int), (none : Option Int)) = false :=
        Bool.eq_false_iff.mpr (mt List.contains_iff_mem.mp hc)
      simp only [hc', Bool.false_eq_true, ↓reduceIte] at h
      split at h
      · cases h
      · cases h
        refine ⟨⟨fun hm => ?_, fun hm => absurd hm hc⟩, fun s hs => ?_, fun t ht => Or.inr ?_⟩
        · -- `(0, None)` among the kept searches can only be the 3' search, with its minimum 0 attained
          rcases List.mem_append.mp hm with hm | hm
          · split at hm <;> simp at hm
          · split at hm
            · simp at hm
            · rename_i s ss hb
              simp only [List.mem_cons, Prod.mk.injEq, List.not_mem_nil, or_false] at hm
              have hmem : (0 : Int) ∈ s :: ss := hm.1 ▸ minInt_mem ss s
              rw [← hb] at hmem
              obtain ⟨⟨a, b⟩, hp, ha⟩ := List.mem_map.mp hmem
              obtain ⟨hp, hn⟩ := List.mem_filter.mp hp
              simp at ha hn
              subst ha; subst hn
              exact hp
        · have hmem : s ∈ (positions.filter (fun p => p.2.isNone)).map (·.1) :=
            List.mem_map.mpr ⟨(s, none), List.mem_filter.mpr ⟨hs, rfl⟩, rfl⟩
          cases hb : (positions.filter (fun p => p.2.isNone)).map (·.1) with
          | nil => rw [hb] at hmem; cases hmem
          | cons s0 ss => exact ⟨minInt ss s0, by simp, Or.inr (minInt_le ss s0 s (hb ▸ hmem))⟩
        · have hmem : t ∈ (positions.filter (fun p => p.1 == 0)).filterMap (·.2) :=
            List.mem_filterMap.mpr ⟨(0, some t), List.mem_filter.mpr ⟨ht, by simp⟩, rfl⟩
          cases hb : (positions.filter (fun p => p.1 == 0)).filterMap (·.2) with
          | nil => rw [hb] at hmem; cases hmem
          | cons s0 ss => exact ⟨maxInt ss s0, by simp, le_maxInt ss s0 t (hb ▸ hmem)⟩

theorem mem_positions {l : List (Bytes × Pos)} {k : Bytes} {p : Pos} :
    p ∈ (l.filter (·.1 == k)).map (·.2) ↔ (k, p) ∈ l := by
  simp only [List.mem_map, List.mem_filter, beq_iff_eq]
  constructor
  · rintro ⟨⟨k', p'⟩, ⟨h, rfl⟩, rfl⟩; exact h
  · intro h; exact ⟨(k, p), ⟨h, rfl⟩, rfl⟩

theorem minimizeFor_eq_ok {l y : List (Bytes × Pos)} {k : Bytes} (h : minimizeFor l k = .ok y) :
    ∃ ps, minimizeOne ((l.filter (·.1 == k)).map (·.2)) = .ok ps ∧ y = ps.map fun p => (k, p) := by
  unfold minimizeFor at h
  split at h
  · cases h
  · cases h
    exact ⟨_, ‹_›, rfl⟩

theorem minimizeKmerSearchList_eq_ok {l r : List (Bytes × Pos)} (h : minimizeKmerSearchList l = .ok r) :
    ∃ ls, mapE (minimizeFor l) (sortUniq bytesLt (l.map (·.1))) = .ok ls ∧ r = ls.flatten := by
  unfold minimizeKmerSearchList at h
  split at h
  · cases h
  · cases h
    exact ⟨_, ‹_›, rfl⟩

theorem minimize_ok {l : List (Bytes × Pos)} (h : ∀ t ∈ l, t.2.1 = 0 ∨ t.2.2 = none) :
    ∃ r, minimizeKmerSearchList l = .ok r := by
  obtain ⟨ls, hls⟩ := mapE_all_ok (f := minimizeFor l) (l := sortUniq bytesLt (l.map (·.1))) fun k _ => by
    obtain ⟨ps, hps⟩ := minimizeOne_ok (positions := (l.filter (·.1 == k)).map (·.2)) fun p hp =>
      h (k, p) (mem_positions.mp hp)
    exact ⟨_, by rw [minimizeFor, hps]⟩
  exact ⟨_, by rw [minimizeKmerSearchList, hls]⟩

theorem minimize_mem {l r : List (Bytes × Pos)} (h : minimizeKmerSearchList l = .ok r) {k : Bytes}
    (hk : k ∈ l.map (·.1)) :
    ∃ ps, minimizeOne ((l.filter (·.1 == k)).map (·.2)) = .ok ps ∧ ∀ p ∈ ps, (k, p) ∈ r := by
  obtain ⟨ls, hls, rfl⟩ := minimizeKmerSearchList_eq_ok h
  obtain ⟨y, hy, hyl⟩ := (mapE_eq_ok hls).1 k ((mem_sortUniq bytesLt_tri).mpr hk)
  obtain ⟨ps, hps, rfl⟩ := minimizeFor_eq_ok hy
  exact ⟨ps, hps, fun p hp => List.mem_flatten.mpr ⟨_, hyl, List.mem_map.mpr ⟨p, hp, rfl⟩⟩⟩

theorem minimize_mem_inv {l r : List (Bytes × Pos)} (h : minimizeKmerSearchList l = .ok r) {k : Bytes} {p : Pos}
    (hk : (k, p) ∈ r) : k ∈ l.map (·.1) ∧ ∃ ps, minimizeOne ((l.filter (·.1 == k)).map (·.2)) = .ok ps ∧ p ∈ ps := by
  obtain ⟨ls, hls, rfl⟩ := minimizeKmerSearchList_eq_ok h
  obtain ⟨y, hy, hky⟩ := List.mem_flatten.mp hk
  obtain ⟨k', hk', hf⟩ := (mapE_eq_ok hls).2 y hy
  obtain ⟨ps, hps, rfl⟩ := minimizeFor_eq_ok hf
  obtain ⟨p', hp', heq⟩ := List.mem_map.mp hky
  cases heq
  exact ⟨(mem_sortUniq bytesLt_tri).mp hk', ps, hps, hp'⟩

theorem minimize_zero_none {l r : List (Bytes × Pos)} (h : minimizeKmerSearchList l = .ok r) (k : Bytes) :
    (k, ((0 : Int), (none : Option Int))) ∈ r ↔ (k, ((0 : Int), (none : Option Int))) ∈ l := by
  constructor
  · intro hm
    obtain ⟨_, ps, hps, hp⟩ := minimize_mem_inv h hm
    exact mem_positions.mp ((minimizeOne_spec hps).1.mp hp)
  · intro hm
    obtain ⟨ps, hps, hall⟩ := minimize_mem h (List.mem_map.mpr ⟨_, hm, rfl⟩)
    exact hall _ ((minimizeOne_spec hps).1.mpr (mem_positions.mpr hm))

/-- the local `triples` of `removeRedundantKmers` (`kmer_search_list` in `remove_redundant_kmers`): every k-mer with its window -/
def triples (sets : List SearchSet) : List (Bytes × Pos) :=
  sets.flatMap fun s => s.kmers.map fun k => (k, (s.start, s.stop))

theorem mem_triples {sets : List SearchSet} {k : Bytes} {p : Pos} :
    (k, p) ∈ triples sets ↔ ∃ S ∈ sets, k ∈ S.kmers ∧ p = (S.start, S.stop) := by
  simp only [triples, List.mem_flatMap, List.mem_map, Prod.mk.injEq]
  constructor
  · rintro ⟨S, hS, k', hk', rfl, rfl⟩; exact ⟨S, hS, hk', rfl⟩
  · rintro ⟨S, hS, hk, rfl⟩; exact ⟨S, hS, k, hk, rfl, rfl⟩

theorem removeRedundant_entries {sets : List SearchSet} {entries : List Entry}
    (h : removeRedundantKmers sets = .ok entries) :
    ∃ minimized, minimizeKmerSearchList (triples sets) = .ok minimized ∧
      ∀ k p, (∃ e ∈ entries, e.start = p.1 ∧ e.stop = p.2 ∧ k ∈ e.kmers) ↔ (k, p) ∈ minimized := by
  dsimp only [removeRedundantKmers] at h
  split at h
  · cases h
  · rename_i minimized hmin
    cases h
    refine ⟨minimized, hmin, fun k p => ?_⟩
    simp only [List.mem_map, mem_sortUniq posLt_tri]
    constructor
    · rintro ⟨_, ⟨key, _, rfl⟩, h1, h2, hk⟩
      obtain ⟨⟨k', p'⟩, hf, rfl⟩ := List.mem_map.mp hk
      obtain ⟨hin, hp'⟩ := List.mem_filter.mp hf
      have : p' = p := (beq_iff_eq.mp hp').trans (Prod.ext h1 h2)
      exact this ▸ hin
    · intro hm
      exact ⟨_, ⟨p, ⟨_, hm, rfl⟩, rfl⟩, rfl, rfl,
        List.mem_map.mpr ⟨(k, p), List.mem_filter.mpr ⟨hm, beq_self_eq_true p⟩, rfl⟩⟩

theorem removeRedundant_zero_none {sets : List SearchSet} {entries : List Entry}
    (h : removeRedundantKmers sets = .ok entries) (k : Bytes) :
    (∃ e ∈ entries, e.start = 0 ∧ e.stop = none ∧ k ∈ e.kmers) ↔
    (∃ s ∈ sets, s.start = 0 ∧ s.stop = none ∧ k ∈ s.kmers) := by
  obtain ⟨minimized, hmin, hent⟩ := removeRedundant_entries h
  rw [hent k (0, none), minimize_zero_none hmin, mem_triples]
  constructor
  · rintro ⟨S, hS, hk, hp⟩; exact ⟨S, hS, (Prod.mk.inj hp).1.symm, (Prod.mk.inj hp).2.symm, hk⟩
  · rintro ⟨S, hS, h0, hn, hk⟩; exact ⟨S, hS, hk, by rw [h0, hn]⟩

/-- a k-mer of a 3' search set is still searched in a window that contains the set's window -/
theorem removeRedundant_back {sets : List SearchSet} {entries : List Entry} (h : removeRedundantKmers sets = .ok entries)
    {S : SearchSet} (hS : S ∈ sets) (hstop : S.stop = none) {k : Bytes} (hk : k ∈ S.kmers) :
    ∃ e ∈ entries, k ∈ e.kmers ∧ e.stop = none ∧ (e.start = 0 ∨ e.start ≤ S.start) := by
  obtain ⟨minimized, hmin, hent⟩ := removeRedundant_entries h
  have htr : (k, (S.start, none)) ∈ triples sets := mem_triples.mpr ⟨S, hS, hk, by rw [hstop]⟩
  obtain ⟨ps, hps, hall⟩ := minimize_mem hmin (List.mem_map.mpr ⟨_, htr, rfl⟩)
  obtain ⟨s', hs', hle⟩ := (minimizeOne_spec hps).2.1 _ (mem_positions.mpr htr)
  obtain ⟨e, he, hes, het, hke⟩ := (hent k _).mpr (hall _ hs')
  exact ⟨e, he, hke, het, by rw [hes]; exact hle⟩

/-- a k-mer of a 5' search set is still searched in a window that contains the set's window -/
theorem removeRedundant_front {sets : List SearchSet} {entries : List Entry} (h : removeRedundantKmers sets = .ok entries)
    {S : SearchSet} (hS : S ∈ sets) (hstart : S.start = 0) {t : Int} (hstop : S.stop = some t) {k : Bytes}
    (hk : k ∈ S.kmers) :
    ∃ e ∈ entries, k ∈ e.kmers ∧ e.start = 0 ∧ (e.stop = none ∨ ∃ t', e.stop = some t' ∧ t ≤ t') := by
  obtain ⟨minimized, hmin, hent⟩ := removeRedundant_entries h
  have htr : (k, ((0 : Int), some t)) ∈ triples sets := mem_triples.mpr ⟨S, hS, hk, by rw [hstart, hstop]⟩
  obtain ⟨ps, hps, hall⟩ := minimize_mem hmin (List.mem_map.mpr ⟨_, htr, rfl⟩)
  rcases (minimizeOne_spec hps).2.2 _ (mem_positions.mpr htr) with h0 | ⟨t', ht', hle⟩
  · obtain ⟨e, he, hes, het, hke⟩ := (hent k _).mpr (hall _ h0)
    exact ⟨e, he, hke, hes, Or.inl het⟩
  · obtain ⟨e, he, hes, het, hke⟩ := (hent k _).mpr (hall _ ht')
    exact ⟨e, he, hke, hes, Or.inr ⟨t', het, hle⟩⟩

theorem removeRedundant_sub {sets : List SearchSet} {entries : List Entry} (h : removeRedundantKmers sets = .ok entries)
    {e : Entry} (he : e ∈ entries) {k : Bytes} (hk : k ∈ e.kmers) : ∃ S ∈ sets, k ∈ S.kmers := by
  obtain ⟨minimized, hmin, hent⟩ := removeRedundant_entries h
  obtain ⟨⟨k', p⟩, htr, rfl⟩ := List.mem_map.mp
    (minimize_mem_inv hmin ((hent k (e.start, e.stop)).mp ⟨e, he, rfl, rfl, hk⟩)).1
  obtain ⟨S, hS, hkS, _⟩ := mem_triples.mp htr
  exact ⟨S, hS, hkS⟩

theorem mem_searchSets {ad : Bytes} {mo : Nat} {thr : Nat → Nat} {b f i ind : Bool} {S : SearchSet} :
    S ∈ searchSets ad mo thr b f i ind ↔
      (b = true ∧ S ∈ createBackOverlapSearchsets ad mo thr ind) ∨
      (f = true ∧ ∃ S' ∈ createBackOverlapSearchsets ad.reverse mo thr ind,
        S = ⟨0, some (-S'.start), S'.kmers.map List.reverse⟩) ∨
      (i = true ∧ S = ⟨0, none, kmerChunks ad (thr ad.length + 1)⟩) := by
  simp only [searchSets, List.mem_append, List.mem_ite_nil_right, List.mem_map, List.mem_singleton, or_assoc, eq_comm]

/-- `create_positions_and_kmers` never takes the `NotImplementedError` path: 3' searches have `stop = None`, all others start at 0 -/
theorem createPositionsAndKmers_ok (adapter : Bytes) (mo : Nat) (thr : Nat → Nat) (b f i ind : Bool) :
    ∃ entries, createPositionsAndKmers adapter mo thr b f i ind = .ok entries := by
  obtain ⟨r, hr⟩ := minimize_ok (l := triples (searchSets adapter mo thr b f i ind)) (by
    rintro ⟨k, p⟩ ht
    obtain ⟨S, hS, _, rfl⟩ := mem_triples.mp ht
    rcases mem_searchSets.mp hS with ⟨_, hS⟩ | ⟨_, S', _, rfl⟩ | ⟨_, rfl⟩
    · exact Or.inr (backSets_stop adapter mo thr ind S hS)
    · exact Or.inl rfl
    · exact Or.inl rfl)
  -- `removeRedundantKmers` has `triples` written out, and `rw` does not unfold it
  unfold triples at hr
  dsimp only [createPositionsAndKmers, removeRedundantKmers]
  rw [hr]
  exact ⟨_, rfl⟩

theorem entry_zero_none_iff {adapter : Bytes} {mo : Nat} {thr : Nat → Nat} {b f ind : Bool} {entries : List Entry}
    (h : createPositionsAndKmers adapter mo thr b f true ind = .ok entries) (hmo : 1 ≤ mo) (k : Bytes) :
    (∃ e ∈ entries, e.start = 0 ∧ e.stop = none ∧ k ∈ e.kmers) ↔ k ∈ kmerChunksList adapter (thr adapter.length + 1) := by
  rw [removeRedundant_zero_none h k, ← mem_kmerChunks]
  constructor
  · rintro ⟨s, hs, h0, hn, hk⟩
    rcases mem_searchSets.mp hs with ⟨_, hs⟩ | ⟨_, S', _, rfl⟩ | ⟨_, rfl⟩
    · have := backSets_start_neg adapter mo thr ind hmo s hs; omega
    · cases hn
    · exact hk
  · intro hk
    exact ⟨_, mem_searchSets.mpr (Or.inr (Or.inr ⟨rfl, rfl⟩)), rfl, rfl, hk⟩

theorem entries_ne {thr : Nat → Nat} (hthr : ThrOK thr) {ad : Bytes} (had : 1 ≤ ad.length) {mo : Nat} (hmo : 1 ≤ mo)
    {b f i ind : Bool} {entries : List Entry} (h : createPositionsAndKmers ad mo thr b f i ind = .ok entries) :
    ∀ e ∈ entries, ∀ k ∈ e.kmers, k ≠ [] := by
  intro e he k hk
  obtain ⟨S, hS, hkS⟩ := removeRedundant_sub h he hk
  rcases mem_searchSets.mp hS with ⟨_, hS⟩ | ⟨_, S', hS', rfl⟩ | ⟨_, rfl⟩
  · exact backSets_ne hthr ad had ind mo hmo S hS k hkS
  · obtain ⟨k', hk', rfl⟩ := List.mem_map.mp hkS
    have := backSets_ne hthr ad.reverse (by simpa using had) ind mo hmo S' hS' k' hk'
    simpa using this
  · have hlt := hthr.lt ad.length had
    exact (kmerChunksList_spec ad _ (by omega) (by omega)).2.2.2 k (mem_kmerChunks.mp hkS)

end Cutadapt.Kmer
