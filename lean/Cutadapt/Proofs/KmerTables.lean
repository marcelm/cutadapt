import Cutadapt.Proofs.KmerFinder
import Cutadapt.Proofs.KmerPositions
import Cutadapt.Proofs.KmerPigeonhole
import Cutadapt.Proofs.AlignSound
import Cutadapt.Proofs.MatchSoundTables
import Cutadapt.Proofs.Seg
/-! From an alignment that `Aligner.locate` reports to an occurrence of a k-mer: the aligner's character relation implies the
    finder's, the aligner call behind each `match_to`, and the chunks of the whole adapter, which are searched in the whole
    read, so that a full-length alignment within tolerance is never rejected (C07, partial theorem). -/
namespace Cutadapt.Kmer
open Cutadapt Cutadapt.Spec Cutadapt.Align Cutadapt.Adapters Cutadapt.Generated

theorem foldl_inv {P : β → Prop} (f : β → α → β) (l : List α) (b : β) (hb : P b)
    (hstep : ∀ b a, P b → P (f b a)) : P (l.foldl f b) := by
  induction l generalizing b with
  | nil => exact hb
  | cons a l ih => exact ih (f b a) (hstep b a hb)

theorem encQ_asciiUpper (aw rw : Bool) (c : UInt8) : MatchSound.encQ aw rw (asciiUpper c) = MatchSound.encQ aw rw c := by
  simp only [MatchSound.encQ, MatchSound.iupacTable_doc, MatchSound.acgtTable_doc, MatchSound.upperTable_doc,
    MatchSound.iupacSet_upper, MatchSound.plainSet_upper, MatchSound.upperAscii_upper]

/-- `AnywhereAdapter.match_to` aligns `sequence.upper()`: the result is one for the sequence itself -/
theorem soundResult_upper {cfg : Cfg} {ref read : Bytes} {as ae rs re e : Nat}
    (h : SoundResult cfg ref (read.map asciiUpper) as ae rs re e) : SoundResult cfg ref read as ae rs re e :=
  { h with
    h_re := by simpa using h.h_re
    stopQuery := fun hq => by simpa using h.stopQuery hq
    stopOne := by simpa using h.stopOne
    script := by
      simpa only [MatchSound.encodeQuery_eq_map, List.map_map, Function.comp_def, encQ_asciiUpper] using h.script }

theorem rel_transfer (cfg : Cfg) (a c : UInt8) (ha0 : a ≠ 0) (hau : tr upperTable a = a) (hc0 : c ≠ 0) (hc : c < 128)
    (h : cfg.eq (MatchSound.encR cfg.wildRef cfg.wildQuery a) (MatchSound.encQ cfg.wildRef cfg.wildQuery c) = true) :
    kmerMatches cfg.wildRef cfg.wildQuery a c = true := by
  unfold Cfg.eq compareAscii charsEqual MatchSound.encR MatchSound.encQ at h
  unfold kmerMatches refTable queryTable
  have hc' : decide (c < 128) = true := by simpa using hc
  cases hr : cfg.wildRef <;> cases hq : cfg.wildQuery <;> simp [hr, hq, ha0, hc0, hc'] at h ⊢
  · rw [hau]; exact h
  · exact h
  · exact h
  · exact h

theorem occurs_transfer (cfg : Cfg) (k fin : Bytes) (hk : ∀ a ∈ k, a ≠ 0 ∧ tr upperTable a = a)
    (hfin : ∀ c ∈ fin, c ≠ 0 ∧ c < 128) (p : Nat)
    (h : OccursAt cfg.eq (k.map (MatchSound.encR cfg.wildRef cfg.wildQuery))
      (fin.map (MatchSound.encQ cfg.wildRef cfg.wildQuery)) p) :
    OccursAt (kmerMatches cfg.wildRef cfg.wildQuery) k fin p :=
  occursAt_of_map (fun a ha c hc => rel_transfer cfg a c (hk a ha).1 (hk a ha).2 (hfin c hc).1 (hfin c hc).2) h

theorem _root_.Cutadapt.Align.SoundResult.script_le {cfg : Cfg} {ref query : Bytes} {as ae rs re e : Nat}
    (h : SoundResult cfg ref query as ae rs re e) (hmono : ∀ x y, x ≤ y → cfg.thr x ≤ cfg.thr y) :
    ∃ s, lhs s = (seg ref as ae).map (MatchSound.encR cfg.wildRef cfg.wildQuery) ∧
      rhs s = (seg query rs re).map (MatchSound.encQ cfg.wildRef cfg.wildQuery) ∧
      cost cfg.eq cfg.indelCost s ≤ cfg.thr (ae - as) := by
  obtain ⟨s, hl, hr, hc⟩ := h.script
  refine ⟨s, by rw [hl, MatchSound.encodeRef_eq_map, seg_map], by rw [hr, MatchSound.encodeQuery_eq_map, seg_map], ?_⟩
  exact Nat.le_trans hc (Nat.le_trans h.tolerance (hmono _ _ (Sound.effLen_le_length cfg ref _ as ae _)))

/-- the statement of the aligner's soundness theorem (C01), taken as a hypothesis here so that the two compose -/
def LocateSound (cfg : Cfg) (m : Nat) : Prop :=
  ∀ ref query as ae rs re sc e, ref.length = m → locate cfg ref query = some (as, ae, rs, re, sc, e) →
    SoundResult cfg ref query as ae rs re e

/-- a full-length alignment within tolerance leaves one chunk of the adapter intact in the read -/
theorem chunk_occurs_of_full_match (cfg : Cfg) (ref fin : Bytes)
    (href : ∀ a ∈ ref, a ≠ 0 ∧ tr upperTable a = a) (hfin : ∀ c ∈ fin, c ≠ 0 ∧ c < 128)
    (hic : 1 ≤ cfg.indelCost) (hmono : ∀ x y, x ≤ y → cfg.thr x ≤ cfg.thr y)
    (hthr : cfg.thr ref.length + 1 ≤ ref.length)
    (rs re e : Nat) (hs : SoundResult cfg ref fin 0 ref.length rs re e) :
    ∃ k ∈ kmerChunksList ref (cfg.thr ref.length + 1), ∃ i,
      OccursAt (kmerMatches cfg.wildRef cfg.wildQuery) k fin i := by
  obtain ⟨s, hl, hr, hcost⟩ := hs.script_le hmono
  rw [seg_zero_length] at hl
  obtain ⟨hflat, hcount, _, _⟩ := kmerChunksList_spec ref (cfg.thr ref.length + 1) (by omega) hthr
  obtain ⟨k, hkm, o', hocc⟩ := pigeonhole_prefix cfg.eq cfg.indelCost hic s (MatchSound.encR cfg.wildRef cfg.wildQuery)
    (kmerChunksList ref (cfg.thr ref.length + 1)) [] (by rw [List.append_nil, hflat, hl]) (by rw [hcount]; exact Nat.lt_succ_of_le hcost)
  rw [hr, ← seg_map] at hocc
  refine ⟨k, hkm, rs + o', occurs_transfer cfg k fin (fun a ha => href a ?_) hfin _
    (occursAt_of_seg hs.h_rs (by simpa using hs.h_re) hocc)⟩
  rw [← hflat]
  exact List.mem_flatten.mpr ⟨k, hkm, ha⟩

theorem kmersPresent_of_chunk {adapter : Bytes} {mo : Nat} {thr : Nat → Nat} {b f ind : Bool} {entries : List Entry}
    (h : createPositionsAndKmers adapter mo thr b f true ind = .ok entries) (hmo : 1 ≤ mo)
    (hthr : thr adapter.length + 1 ≤ adapter.length)
    {ms : List MaskEntry} (hms : mkFinder entries = some ms) (wr wq : Bool) (read beyond : Bytes)
    (k : Bytes) (hk : k ∈ kmerChunksList adapter (thr adapter.length + 1)) (i : Nat)
    (hocc : OccursAt (kmerMatches wr wq) k read i) :
    kmersPresent (.masks wr wq ms) read beyond = true := by
  obtain ⟨e, he, h0, hn, hke⟩ := (entry_zero_none_iff h hmo k).mpr hk
  have hne : ∀ w ∈ e.kmers, w ≠ [] := fun w hw =>
    (kmerChunksList_spec adapter _ (by omega) hthr).2.2.2 w ((entry_zero_none_iff h hmo w).mp ⟨e, he, h0, hn, hw⟩)
  exact kmersPresent_of_whole hms he hne wr wq read beyond h0 hn hke hocc

theorem kmersPresent_makeKmerFinder {a : Adapter} {s : Bytes} {b f i : Bool} {fin beyond : Bytes}
    (h : ∀ entries ms, createPositionsAndKmers s a.minOverlap a.thr b f i a.indels = .ok entries → mkFinder entries = some ms →
      kmersPresent (.masks a.adapterWildcards a.readWildcards ms) fin beyond = true) :
    kmersPresent (makeKmerFinder a s b f i) fin beyond = true := by
  unfold makeKmerFinder
  split
  · rfl
  · split
    · rfl
    · exact h _ _ ‹_› ‹_›

/-- side conditions on the adapter (all decidable for a concrete adapter except monotonicity of `thr`, which holds for
    `thr L = ⌊fl(L · rate)⌋`): characters are non-NUL and upper-case, `⌊rate·m⌋ < m` (implied by rate < 1), overlap ≥ 1 -/
structure PartialSide (a : Adapter) : Prop where
  seq_ok : ∀ c ∈ a.seq, c ≠ 0 ∧ tr upperTable c = c
  thr_mono : ∀ x y, x ≤ y → a.thr x ≤ a.thr y
  thr_lt : a.thr a.seq.length + 1 ≤ a.seq.length
  overlap_pos : 1 ≤ a.minOverlap

theorem makeKmerFinder_full (a : Adapter) (hside : PartialSide a) (s fin : Bytes) (b f : Bool) (flags : Nat)
    (hs_ok : ∀ c ∈ s, c ≠ 0 ∧ tr upperTable c = c) (hs_len : s.length = a.seq.length)
    (hfin : ∀ c ∈ fin, c ≠ 0 ∧ c < 128) (beyond : Bytes)
    (rs re e : Nat) (hres : SoundResult (alignerCfg a flags) s fin 0 s.length rs re e) :
    kmersPresent (makeKmerFinder a s b f true) fin beyond = true :=
  kmersPresent_makeKmerFinder fun entries ms hentries hms => by
    have hthr : a.thr s.length + 1 ≤ s.length := by rw [hs_len]; exact hside.thr_lt
    obtain ⟨k, hk, i, hocc⟩ := chunk_occurs_of_full_match (alignerCfg a flags) s fin hs_ok hfin (indelCost_pos a)
      hside.thr_mono hthr rs re e hres
    exact kmersPresent_of_chunk hentries hside.overlap_pos hthr hms _ _ fin beyond k hk i hocc

theorem mem_finderInput {a : Adapter} {read : Bytes} {c : UInt8} : c ∈ finderInput a read ↔ c ∈ read := by
  unfold finderInput
  split <;> simp

theorem length_finderInput (a : Adapter) (read : Bytes) : (finderInput a read).length = read.length := by
  unfold finderInput
  split <;> simp

/-- the sequence handed to the finder is the adapter's, reversed for `RightmostFrontAdapter` -/
theorem finderArgs_seq {a : Adapter} {s : Bytes} {b f i : Bool} (hargs : finderArgs a = some (s, b, f, i)) :
    s.length = a.seq.length ∧ ∀ c ∈ s, c ∈ a.seq := by
  cases hty : a.ty <;> simp only [finderArgs, hty] at hargs
  case rightmostFront =>
    cases hargs
    exact ⟨List.length_reverse, fun c hc => List.mem_reverse.mp hc⟩
  case «prefix» | suffix =>
    split at hargs
    · cases hargs
    · cases hargs
      exact ⟨rfl, fun _ hc => hc⟩
  case front | back | anywhere | nonInternalFront | nonInternalBack =>
    cases hargs
    exact ⟨rfl, fun _ hc => hc⟩

/-- What each `match_to` aligns, in the coordinates of the sequences handed to the finder (`RightmostFrontAdapter` reverses
    adapter and read): a result of `alignment` is a sound result for `finderArgs`' sequence against `finderInput`, of full
    adapter length if the reported one is. Anchored adapters without indels use a comparer and have no finder. -/
theorem sound_of_alignment (a : Adapter) (hsound : LocateSound (alignerCfg a (flagsOf a)) a.seq.length) (read : Bytes)
    {s : Bytes} {b f i : Bool} (hargs : finderArgs a = some (s, b, f, i)) {as ae rs re : Nat} {score : Int} {errors : Nat}
    (hal : alignment a read = some (as, ae, rs, re, score, errors)) :
    ∃ as' ae' rs' re', SoundResult (alignerCfg a (flagsOf a)) s (finderInput a read) as' ae' rs' re' errors ∧
      (as = 0 → ae = a.seq.length → as' = 0 ∧ ae' = s.length) := by
  -- the classes that align the adapter with the read as they are
  have plain : locate (alignerCfg a (flagsOf a)) a.seq read = some (as, ae, rs, re, score, errors) →
      ∃ as' ae' rs' re', SoundResult (alignerCfg a (flagsOf a)) a.seq read as' ae' rs' re' errors ∧
        (as = 0 → ae = a.seq.length → as' = 0 ∧ ae' = a.seq.length) :=
    fun h => ⟨as, ae, rs, re, hsound _ _ _ _ _ _ _ _ rfl h, fun h0 h1 => ⟨h0, h1⟩⟩
  cases hty : a.ty
  all_goals
    simp only [finderArgs, hty] at hargs
    simp only [alignment, hty] at hal
    simp only [finderInput, hty]
  case rightmostFront =>
    cases hargs
    split at hal
    · cases hal
    · rename_i rs' re' qs qe sc er hloc
      cases hal
      have hres := hsound _ _ _ _ _ _ _ _ List.length_reverse hloc
      refine ⟨rs', re', qs, qe, hres, fun h0 h1 => ?_⟩
      have h2 := hres.h_as
      have h3 := hres.h_ae
      rw [List.length_reverse] at h3 ⊢
      omega
  case anywhere =>
    cases hargs
    exact ⟨as, ae, rs, re, soundResult_upper (hsound _ _ _ _ _ _ _ _ rfl hal), fun h0 h1 => ⟨h0, h1⟩⟩
  case «prefix» | suffix =>
    split at hargs
    · cases hargs
    · rename_i hind
      cases hargs
      rw [if_neg hind] at hal
      exact plain hal
  case front | back | nonInternalFront | nonInternalBack =>
    cases hargs
    exact plain hal

theorem alignment_of_matchTo {a : Adapter} {read : Bytes} {mt : SingleMatch} (hm : matchTo a read = some mt) :
    alignment a read = some (mt.astart, mt.astop, mt.rstart, mt.rstop, mt.score, mt.errors) := by
  unfold matchTo at hm
  split at hm
  · cases hm
  · cases hm
    assumption

def hasInternal : AdapterType → Bool
  | .front | .rightmostFront | .back | .anywhere => true
  | _ => false

theorem prefilter_keeps_full_matches (a : Adapter) (hty : hasInternal a.ty = true) (hside : PartialSide a)
    (hsound : LocateSound (alignerCfg a (flagsOf a)) a.seq.length) (read beyond : Bytes)
    (hread : ∀ c ∈ read, c ≠ 0 ∧ c < 128)
    (mt : SingleMatch) (hm : matchTo a read = some mt) (h0 : mt.astart = 0) (h1 : mt.astop = a.seq.length) :
    kmersPresent (finderFor a) (finderInput a read) beyond = true := by
  obtain ⟨s, b, f, hargs⟩ : ∃ s b f, finderArgs a = some (s, b, f, true) := by
    cases hty' : a.ty <;> simp [hty', hasInternal] at hty <;> simp [finderArgs, hty']
  obtain ⟨hlen, hmem⟩ := finderArgs_seq hargs
  obtain ⟨as', ae', rs', re', hres, hfull⟩ := sound_of_alignment a hsound read hargs (alignment_of_matchTo hm)
  obtain ⟨rfl, rfl⟩ := hfull h0 h1
  simp only [finderFor, hargs]
  exact makeKmerFinder_full a hside s _ b f _ (fun c hc => hside.seq_ok c (hmem c hc)) hlen
    (fun c hc => hread c (mem_finderInput.mp hc)) beyond rs' re' _ hres

end Cutadapt.Kmer
