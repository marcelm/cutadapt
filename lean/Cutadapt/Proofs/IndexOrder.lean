import Cutadapt.Proofs.IndexFold
/-! The final index does not depend on the order of the adapters: with the adapter itself in place of its position, the
    entry for a key is the unique best offer, and that notion is invariant under permutation. -/
namespace Cutadapt.Index
open Cutadapt Cutadapt.Adapters

/-- an offer with the adapter itself instead of its position in the list: `(adapter, key, errors, matches)` -/
abbrev ROffer := Adapter × Bytes × Nat × Nat

/-- all offers of `_make_index`, in order -/
def rEvents (adapters : List Adapter) : List ROffer :=
  adapters.flatMap (fun a => (adapterItems a).map (fun it => (a, it)))

def resolve (adapters : List Adapter) (ev : Ev) : ROffer := (adapters.getD ev.ai default, ev.key, ev.e, ev.m)

theorem events_resolve (adapters : List Adapter) : (events adapters).map (resolve adapters) = rEvents adapters := by
  have h : ∀ p ∈ adapters.zipIdx,
      (adapterEvents p).map (resolve adapters) = (adapterItems p.1).map (fun it => (p.1, it)) := fun p hp => by
    simp [adapterEvents, resolve, List.getD_eq_getElem?_getD, List.mem_zipIdx_iff_getElem?.mp hp]
  rw [events, List.map_flatMap, List.flatMap_def, List.map_congr_left h, rEvents, List.flatMap_def]
  conv => rhs; rw [← List.zipIdx_map_fst 0 adapters, List.map_map]
  rfl

def rForKey (s : Bytes) (l : List ROffer) : List ROffer := l.filter (fun x => x.2.1 == s)

theorem forKey_resolve (adapters : List Adapter) (s : Bytes) :
    (forKey s (events adapters)).map (resolve adapters) = rForKey s (rEvents adapters) := by
  rw [← events_resolve, rForKey, List.filter_map]
  rfl

/-- what the final index holds for `s`, with the adapter resolved -/
def finalEntry {D : Type} (ops : DictOps D) (adapters : List Adapter) (isPrefix : Bool) (s : Bytes) : Option (Adapter × Nat × Nat) :=
  (ops.get? (makeIndex ops adapters isPrefix).index s).map (fun en => (adapters.getD en.1 default, en.2))

/-- `x` is *the* best offer in `R`: no offer has more matches and no other offer has as many -/
def IsWinner (R : List ROffer) (x : ROffer) : Prop :=
  x ∈ R ∧ (∀ y ∈ R, y.2.2.2 ≤ x.2.2.2) ∧ (R.filter (fun y => y.2.2.2 == x.2.2.2)).length = 1

theorem isWinner_perm (R R' : List ROffer) (hp : R.Perm R') (x : ROffer) (h : IsWinner R x) : IsWinner R' x := by
  obtain ⟨h1, h2, h3⟩ := h
  refine ⟨(List.Perm.mem_iff hp).mp h1, fun y hy => h2 y ((List.Perm.mem_iff hp).mpr hy), ?_⟩
  rw [← List.Perm.length_eq (List.Perm.filter _ hp)]; exact h3

/-- **The final index, declaratively**: it holds `(a, e, m)` for `s` exactly when `(a, s, e, m)` is the unique best
    offer for `s` (`finalOf_eq_some_iff`, with the adapters resolved). -/
theorem finalEntry_eq_some_iff {D : Type} (ops : DictOps D) (hl : ops.Lawful) (adapters : List Adapter) (isPrefix : Bool)
    (s : Bytes) (a : Adapter) (e m : Nat) :
    finalEntry ops adapters isPrefix s = some (a, e, m) ↔ IsWinner (rForKey s (rEvents adapters)) (a, s, e, m) := by
  rw [finalEntry, (makeIndex_get? ops hl adapters isPrefix s).2.2, IsWinner, ← List.countP_eq_length_filter,
    ← forKey_resolve, List.countP_map]
  constructor
  · intro h
    obtain ⟨⟨ai, e', m'⟩, hf, heq⟩ := Option.map_eq_some_iff.mp h
    cases heq
    obtain ⟨⟨ev, hev, rfl, rfl, rfl⟩, hmax, hc⟩ := (finalOf_eq_some_iff _ _ _ _).mp hf
    refine ⟨List.mem_map.mpr ⟨ev, hev, by rw [resolve, (mem_forKey.mp hev).2]⟩, ?_, hc⟩
    intro y hy
    obtain ⟨ev', hev', rfl⟩ := List.mem_map.mp hy
    exact hmax ev' hev'
  · rintro ⟨hmem, hmax, hc⟩
    obtain ⟨ev, hev, hr⟩ := List.mem_map.mp hmem
    simp only [resolve, Prod.mk.injEq] at hr
    obtain ⟨rfl, -, rfl, rfl⟩ := hr
    rw [(finalOf_eq_some_iff _ ev.ai ev.e ev.m).mpr
      ⟨⟨ev, hev, rfl, rfl, rfl⟩, fun ev' hev' => hmax _ (List.mem_map.mpr ⟨ev', hev', rfl⟩), hc⟩]
    rfl

/-- **Order independence.** The final index holds the same adapter, errors and matches for every string under every
    order of the adapter list (and the same strings are absent). -/
theorem finalEntry_perm {D : Type} (ops : DictOps D) (hl : ops.Lawful) (as bs : List Adapter) (hp : as.Perm bs)
    (isPrefix : Bool) (s : Bytes) :
    finalEntry ops as isPrefix s = finalEntry ops bs isPrefix s := by
  have hperm : (rForKey s (rEvents as)).Perm (rForKey s (rEvents bs)) :=
    List.Perm.filter _ (List.Perm.flatMap_right _ hp)
  apply Option.ext
  rintro ⟨a, e, m⟩
  rw [finalEntry_eq_some_iff ops hl, finalEntry_eq_some_iff ops hl]
  exact ⟨isWinner_perm _ _ hperm _, isWinner_perm _ _ hperm.symm _⟩

end Cutadapt.Index
