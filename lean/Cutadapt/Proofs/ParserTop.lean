import Cutadapt.Proofs.ParserLinked
/-! The entry point and `file:` specifications on rendered specifications; inversion lemmas for the property file (C18). -/
namespace Cutadapt.ParserProofs
open Cutadapt.Parser Cutadapt.Notation

theorem spok_globals (g : Globals) (hg : GlobalsOK g) : SPOK g.toParams (Base.ofGlobals g) where
  e := rfl
  o := rfl
  oint := hg
  indels := rfl
  rw := rfl
  aw := rfl
  other := by intro k hk; cases k <;> simp [kwAllowed] at hk <;> rfl

theorem isAscii_of {s : Str} (h : ∀ c ∈ s, c.toNat < 128) : isAscii s = true := by
  unfold isAscii
  rw [List.all_eq_true]
  intro c hc
  simpa using h c hc

theorem not_file {s : Str} (h : ':' ∉ s) :
    (startsWith s (cs!"file:") || startsWith s (cs!"^file:") || startsWith s (cs!"file$:")) = false := by
  rw [startsWith_of_notin (c := ':') (by decide) h, startsWith_of_notin (c := ':') (by decide) h,
    startsWith_of_notin (c := ':') (by decide) h]
  rfl

theorem toKind_map {α β : Type} (r : Except Err α) (f : α → β) :
    toKind (match r with | .error e => .error e | .ok a => .ok (f a)) =
      match toKind r with | .error k => .error k | .ok a => .ok (f a) := by
  cases r <;> rfl

/-- **`parse ∘ render = meaning`, specifications without `file:`.** -/
theorem parse_plain (o : Opt) {b : Body} (hb : b.WF) (g : Globals) (hg : GlobalsOK g) :
    toKind (parse b.render o.atype g []) = meaning (.plain o b) g := by
  have hasc : isAscii b.render = true := isAscii_of (body_forall textual_ascii (by decide) hb)
  have hcolon : ':' ∉ b.render := fun h => body_forall textual_colon (by decide) hb _ h rfl
  unfold parse makeAdapters
  simp only [hasc, List.all_nil, and_self, if_true, not_file hcolon, Bool.false_eq_true, if_false]
  unfold meaning
  simp only
  rw [← makeAdapter_sem hb (spok_globals g hg) o none]
  cases makeAdapter b.render o.atype g.toParams none <;> rfl

/-- the `anchoring_prefix` and `anchoring_suffix` that `make_adapters_from_one_specification` puts around each record of
    a `^file:` or `file$:` specification -/
def anchorPre : FileAnchor → Str
  | .caret => ['^']
  | _ => []
def anchorSuf : FileAnchor → Str
  | .dollar => ['$']
  | _ => []

theorem caret_render {p : Part} (hn : p.name = none) (hr : p.restr = .none) :
    '^' :: p.render = { p with restr := .caret }.render := by
  simp [Part.render, Part.renderHead, hn, hr, renderName, Restr.pre, Restr.suf]

theorem render_dollar {p : Part} (hr : p.restr = .none) (hps : p.params = []) :
    p.render ++ ['$'] = { p with restr := .dollar }.render := by
  simp [Part.render, Part.renderHead, hr, hps, renderParams, Restr.pre, Restr.suf]

/-- `Part.WF` does not look at `restr`, so the anchored record is well-formed as well. -/
theorem anchor_render (a : FileAnchor) {r : Record} (hr : r.WF a) :
    anchorPre a ++ r.body.render ++ anchorSuf a = (r.body.anchor a).render ∧ (r.body.anchor a).WF := by
  obtain ⟨hb, _, hc, hd⟩ := hr
  cases a with
  | none => cases hbody : r.body <;> simp [anchorPre, anchorSuf, Body.anchor, hbody] at hb ⊢ <;> exact hb
  | caret =>
    obtain ⟨hn, hre⟩ := hc rfl
    cases hbody : r.body
    all_goals
      rw [hbody] at hb hn hre
      simp only [Body.first] at hn hre
      refine ⟨?_, hb⟩
      simp [anchorPre, anchorSuf, Body.anchor, Body.render, ← caret_render hn hre]
  | dollar =>
    obtain ⟨hre, hps⟩ := hd rfl
    cases hbody : r.body
    all_goals
      rw [hbody] at hb hre hps
      simp only [Body.last] at hre hps
      refine ⟨?_, hb⟩
      simp [anchorPre, anchorSuf, Body.anchor, Body.render, ← render_dollar hre hps]

theorem fastaName_eq (h : Str) : fastaName h = headerName h := by
  unfold fastaName headerName lstrip
  cases List.dropWhile isSpace h <;> rfl

theorem toKind_mapM {α β γ : Type} (f : β → Except Err γ) (g : α → Except Kind γ) (p : α → β) (xs : List α)
    (h : ∀ x ∈ xs, toKind (f (p x)) = g x) : toKind (mapMExcept f (xs.map p)) = mapMK g xs := by
  induction xs with
  | nil => rfl
  | cons x xs ih =>
    simp only [List.map_cons, mapMExcept, mapMK, ← h x (by simp), ← ih (fun y hy => h y (by simp [hy]))]
    cases f (p x) with
    | error e => rfl
    | ok y => cases mapMExcept f (xs.map p) <;> rfl

theorem mapM_records (o : Opt) (a : FileAnchor) {sp : Params} {base : Base} (hsp : SPOK sp base) (records : List Record)
    (hrs : ∀ r ∈ records, r.WF a) :
    toKind (mapMExcept (fun r : Str × Str => makeAdapter (anchorPre a ++ r.2 ++ anchorSuf a) o.atype sp (fastaName r.1))
      (records.map (fun r => (r.header, r.body.render)))) =
    mapMK (fun r => meaningBody o (r.body.anchor a) base (headerName r.header)) records :=
  toKind_mapM _ _ _ records fun r hr => by
    obtain ⟨hren, hwf⟩ := anchor_render a (hrs r hr)
    simp only [hren, fastaName_eq]
    exact makeAdapter_sem hwf hsp o _

theorem file_parts (a : FileAnchor) (tail : Str) :
    (startsWith (a.render ++ tail) (cs!"file:") || startsWith (a.render ++ tail) (cs!"^file:") ||
      startsWith (a.render ++ tail) (cs!"file$:")) = true ∧
    (if startsWith (a.render ++ tail) (cs!"^") = true then ['^'] else []) = anchorPre a ∧
    (if startsWith (a.render ++ tail) (cs!"^") = true then [] else
      if startsWith (a.render ++ tail) (cs!"file$:") = true then ['$'] else []) = anchorSuf a ∧
    (if startsWith (a.render ++ tail) (cs!"^") = true then (a.render ++ tail).drop 6 else
      if startsWith (a.render ++ tail) (cs!"file$:") = true then (a.render ++ tail).drop 6 else (a.render ++ tail).drop 5) = tail := by
  cases a <;> exact ⟨rfl, rfl, rfl, rfl⟩

/-- A file-level parameter name has one of the keys `maxErrors`, `minOverlap`, `indels`, `noindels`. -/
theorem fileParams_get_none {fparams : List Param} (h : ∀ q ∈ fparams, fileParamName q.name) (k : Key)
    (hk : k ∈ [Key.anywhere, .required, .optional, .rightmost]) : Params.get (paramDict fparams) k = none := by
  refine paramDict_get_none _ _ fun q hq hqk => ?_
  subst hqk
  have hn := h q hq
  unfold fileParamName at hn
  rcases hn with hn | hn | hn | hn | hn | hn | hn
  all_goals
    rw [hn] at hk
    exact absurd hk (by decide)

theorem spok_file {g : Globals} (hg : GlobalsOK g) {fparams : List Param} (hwf : ∀ q ∈ fparams, q.WF ∧ fileParamName q.name)
    {P : Params} (hP : ∀ k, Params.get P k = postGet (paramDict fparams) k) :
    SPOK (g.toParams.update P) ((Base.ofGlobals g).override (paramSem fparams)) := by
  have hsp := spok_globals g hg
  have hnone := fileParams_get_none (fun q hq => (hwf q hq).2)
  refine ⟨?_, ?_, ?_, ?_, ?_, ?_, ?_⟩
  · rw [Params.get_update, hP, hsp.e]
    exact getD_eq_match _ _
  · rw [Params.get_update, hP, hsp.o]
    exact getD_eq_match _ _
  · show ((paramSem fparams).o.getD (Base.ofGlobals g).o).isFloat = false
    cases ho : (paramSem fparams).o with
    | none => exact hg
    | some v => exact paramDict_o_int (fun q hq => (hwf q hq).1) ho
  · rw [Params.get_update, hP, hsp.indels]
    exact getD_eq_match _ _
  · rw [Params.get_update, hP, hsp.rw]
    simp [postGet, paramDict_get_global, Base.override]
  · rw [Params.get_update, hP, hsp.aw]
    simp [postGet, paramDict_get_global, Base.override]
  · intro k hk
    rw [Params.get_update, hP, hsp.other k hk]
    have hfa : Params.get (paramDict fparams) .forceAnywhere = none := paramDict_get_global _ (by simp)
    cases k <;> simp [kwAllowed] at hk <;>
      simp [postGet, Params.has, hnone .anywhere (by decide), hnone .required (by decide), hnone .optional (by decide),
        hnone .rightmost (by decide), hfa]

/-- **`parse ∘ render = meaning`, `file:` specifications.** -/
theorem parse_file (o : Opt) (a : FileAnchor) (path : Str) (fparams : List Param) (records : List Record)
    (hs : (Spec.file o a path fparams records).WF) (g : Globals) (hg : GlobalsOK g) :
    toKind (parse (Spec.file o a path fparams records).render o.atype g (Spec.file o a path fparams records).records) =
      meaning (.file o a path fparams records) g := by
  obtain ⟨hpath, hfp, hrecs⟩ := hs
  have hspec : (Spec.file o a path fparams records).render = a.render ++ (path ++ renderParams fparams) := by
    simp [Spec.render]
  have hasc : isAscii (a.render ++ (path ++ renderParams fparams)) = true := by
    apply isAscii_of
    intro c hc
    simp only [List.mem_append] at hc
    rcases hc with hc | hc | hc
    · exact (by cases a <;> decide : ∀ c ∈ a.render, c.toNat < 128) c hc
    · exact (hpath c hc).2
    · exact params_forall textual_ascii (by decide) _ c hc
  have hrasc : ((Spec.file o a path fparams records).records.all (fun r => isAscii r.1 && isAscii r.2)) = true := by
    rw [List.all_eq_true]
    intro x hx
    simp only [Spec.records, List.mem_map] at hx
    obtain ⟨r, hr, rfl⟩ := hx
    have hw := hrecs r hr
    simp only [Bool.and_eq_true]
    exact ⟨hw.2.1, isAscii_of (body_forall textual_ascii (by decide) hw.1)⟩
  unfold parse
  rw [hspec]
  simp only [hasc, hrasc, and_self, if_true]
  unfold makeAdapters
  obtain ⟨f1, f2, f3, f4⟩ := file_parts a (path ++ renderParams fparams)
  simp only [f1, f2, f3, f4, if_true]
  rw [partition_params (fun h => (hpath _ h).1 rfl)]
  unfold meaning
  cases hc : paramsConsistent fparams with
  | true =>
    obtain ⟨P, hP, hget⟩ := parseParams_ok hc
    simp only [hP, hc, Bool.not_true, Bool.false_eq_true, if_false]
    exact mapM_records o a (spok_file hg hfp hget) records hrecs
  | false =>
    obtain ⟨e, he, hk⟩ := parseParams_err hc
    simp only [he, hc, Bool.not_false, if_true]; exact toKind_cmdline e hk

theorem ite_err_ok {ε α : Type} {c : Prop} [Decidable c] {e : ε} {x : Except ε α} {a : α}
    (h : (if c then Except.error e else x) = .ok a) : x = .ok a := by
  by_cases hc : c
  · rw [if_pos hc] at h; cases h
  · rw [if_neg hc] at h; exact h

theorem ite_ok_cases {ε α : Type} {c : Prop} [Decidable c] {x y : Except ε α} {a : α}
    (h : (if c then x else y) = .ok a) : x = .ok a ∨ y = .ok a := by
  by_cases hc : c
  · rw [if_pos hc] at h; exact Or.inl h
  · rw [if_neg hc] at h; exact Or.inr h

theorem toKind_error_inv {α : Type} {r : Except Err α} (h : toKind r = .error .cmdline) : ∃ e, r = .error e ∧ e.isCmdline = true := by
  cases r with
  | ok a => cases h
  | error e =>
    refine ⟨e, rfl, ?_⟩
    simp only [toKind, kindOf] at h
    cases hk : e.isCmdline with
    | true => rfl
    | false =>
      rw [hk] at h
      simp only [Bool.false_eq_true, if_false] at h
      split at h <;> cases h

theorem meaningPart_invalid (t : AType) (inL : Bool) (p : Part) (base : Base) (nm : Option Str)
    (h : paramsConsistent p.params = false ∨ classOf t p.restr (paramSem p.params).rightmost = none ∨
      ((paramSem p.params).o.isSome = true ∧ p.restr.anchored = true) ∨ (inL = false ∧ (paramSem p.params).required.isSome = true)) :
    meaningPart t inL p base nm = .error .cmdline := by
  unfold meaningPart
  rcases h with h | h | h | h
  · simp [h]
  · simp [h]
  · cases classOf t p.restr (paramSem p.params).rightmost <;> simp [h]
  · cases classOf t p.restr (paramSem p.params).rightmost <;> simp [h]

theorem buildPart_req {p : Part} {base : Base} {cls : Cls} {nm : Option Str} {fa : Bool} {a : Single} {r : Option Value}
    (h : buildPart p base cls nm fa = .ok (a, r)) : r = (paramSem p.params).required := by
  unfold buildPart at h
  have h2 := ite_err_ok (ite_err_ok h)
  injection h2 with h2
  injection h2 with _ h2
  exact h2.symm

theorem meaningPart_req {t : AType} {inL : Bool} {p : Part} {base : Base} {nm : Option Str} {a : Single} {r : Option Value}
    (h : meaningPart t inL p base nm = .ok (a, r)) : r = (paramSem p.params).required := by
  unfold meaningPart at h
  have h1 := ite_err_ok h
  cases hc : classOf t p.restr (paramSem p.params).rightmost with
  | none => rw [hc] at h1; cases h1
  | some cls =>
    rw [hc] at h1
    exact buildPart_req (ite_err_ok (ite_err_ok h1))

theorem meaningBody_linked_ok {o : Opt} {f b : Part} {base : Base} {hn : Option Str} {d : AdapterDesc}
    (h : meaningBody o (.linked f b) base hn = .ok d) :
    ∃ fa ba, d = .linked fa ba ((paramSem f.params).required.getD (.bool (if o = .g then true else f.restr.restricted)))
      ((paramSem b.params).required.getD (.bool (if o = .g then true else b.restr.restricted))) (Notation.optOr hn f.name) := by
  unfold meaningBody at h
  simp only at h
  split at h
  · cases h
  split at h
  · cases h
  split at h
  · cases h
  rename_i fa freq hf _ ba breq hb
  cases h
  exact ⟨fa, ba, by rw [meaningPart_req hf, meaningPart_req hb]⟩

end Cutadapt.ParserProofs
