import Cutadapt.Proofs.RegroupMain
import Mathlib.Data.List.Forall2
/-! Names after regrouping (`namesOf` of the regrouped list against the given list): extra obligations of C08. -/
namespace Cutadapt.C08
open Cutadapt Cutadapt.Adapters

/-- list entries that are not index objects have no members -/
theorem flatMap_memberNames_nil (l : List Matchable) (h : ∀ m ∈ l, m.isIndexed = false) : l.flatMap Matchable.memberNames = [] := by
  induction l with
  | nil => rfl
  | cons x xs ih =>
    have hx := h x List.mem_cons_self
    have : x.memberNames = [] := by
      cases x with
      | indexed ix ids => simp [Matchable.isIndexed] at hx
      | single a => rfl
      | linked f b fr br n => rfl
    simp [this, ih (fun m hm => h m (List.mem_cons_of_mem _ hm))]

/-- row `n` of the name table is the row of the given adapter at position `o` (nothing is claimed for an index object's own row) -/
def NameOf (ads : List Matchable) (n : String) (o : Option Nat) : Prop := ∀ j, o = some j → (ads[j]?).map Matchable.name = some n

theorem forall2_map_of_mem {α β γ : Type} {R : β → γ → Prop} (l : List α) (f : α → β) (g : α → γ)
    (h : ∀ x ∈ l, R (f x) (g x)) : List.Forall₂ R (l.map f) (l.map g) := by
  induction l with
  | nil => exact .nil
  | cons x xs ih => exact .cons (h x List.mem_cons_self) (ih fun y hy => h y (List.mem_cons_of_mem _ hy))

theorem names_other (ads : List Matchable) :
    List.Forall₂ (NameOf ads) ((splitAdapters ads).2.2.map (fun p => p.1.name)) ((splitAdapters ads).2.2.map (fun p => some p.2)) :=
  forall2_map_of_mem _ _ _ fun ⟨m, j⟩ hm j' hj => by
    cases hj
    simp [mem_split_other hm]

theorem names_pre (ads : List Matchable) :
    List.Forall₂ (NameOf ads) ((splitAdapters ads).1.map (fun p => p.1.name)) ((splitAdapters ads).1.map (fun p => some p.2)) :=
  forall2_map_of_mem _ _ _ fun ⟨a, j⟩ hm j' hj => by
    cases hj
    simp [(mem_split_pre hm).1, Matchable.name]

theorem names_suf (ads : List Matchable) :
    List.Forall₂ (NameOf ads) ((splitAdapters ads).2.1.map (fun p => p.1.name)) ((splitAdapters ads).2.1.map (fun p => some p.2)) :=
  forall2_map_of_mem _ _ _ fun ⟨a, j⟩ hm j' hj => by
    cases hj
    simp [(mem_split_suf hm).1, Matchable.name]

/-- the table of a list that was not regrouped -/
theorem forall2_range (ads : List Matchable) :
    List.Forall₂ (NameOf ads) (ads.map Matchable.name) ((List.range ads.length).map some) := by
  rw [List.forall₂_iff_get]
  refine ⟨by simp, fun i h1 h2 j hj => ?_⟩
  simp at hj
  subst hj
  simp at h1
  simp [h1]

theorem nameOf_none (ads : List Matchable) (n : String) : NameOf ads n none := fun _ h => by cases h

/-- **The name table after regrouping names the given adapters**: row by row, the name under which statistics, `{adapter_name}`, the info
    file and `{name}` output files show an adapter is the name of the given adapter the row stands for (`origin`), whether the adapter stayed
    in the list, was moved behind the others, or became a member of an index. With `regroup_origin_perm` (every given adapter has exactly
    one row): regrouping never renames, drops or duplicates an adapter in any report. -/
theorem regroup_names (ads : List Matchable) (hn : ∀ m ∈ ads, m.isIndexed = false) :
    List.Forall₂ (NameOf ads) (namesOf (regroup ads).ads) (regroup ads).origin := by
  by_cases hc : ((splitAdapters ads).1.length > 1 || (splitAdapters ads).2.1.length > 1) = true
  · obtain ⟨ids1, ids2, hr⟩ := regroup_eq ads hc
    -- one kind, from the rows of its adapters: an index object's own row claims nothing and its member rows are the
    -- adapters' rows; adapters that stay single keep their rows and have no members
    have of_block : ∀ (p : Bool) (l : List (Adapter × Nat)) (ids : List Nat),
        List.Forall₂ (NameOf ads) (l.map (fun q => q.1.name)) (l.map (fun q => some q.2)) →
        List.Forall₂ (NameOf ads) ((block p l ids).map (·.1.name)) ((block p l ids).map (·.2)) ∧
        List.Forall₂ (NameOf ads) (((block p l ids).map (·.1)).flatMap Matchable.memberNames) (memberRows l) := by
      intro p l ids hs
      unfold block memberRows
      split
      · exact ⟨.cons (nameOf_none _ _) .nil, by simpa [Matchable.memberNames, Index.makeIndex] using hs⟩
      · refine ⟨by simpa [Matchable.name, Function.comp_def] using hs, ?_⟩
        rw [flatMap_memberNames_nil]
        · exact .nil
        · intro m hm
          obtain ⟨x, hx, rfl⟩ := List.mem_map.mp hm
          obtain ⟨q, _, rfl⟩ := List.mem_map.mp hx
          rfl
    have hother : ∀ m ∈ (splitAdapters ads).2.2.map (fun p => p.1), m.isIndexed = false := by
      intro m hm
      obtain ⟨⟨m', j⟩, hmem, rfl⟩ := List.mem_map.mp hm
      exact hn m' (List.mem_of_getElem? (mem_split_other hmem))
    obtain ⟨b1, m1⟩ := of_block true _ ids1 (names_pre ads)
    obtain ⟨b2, m2⟩ := of_block false _ ids2 (names_suf ads)
    rw [hr, namesOf, entries]
    simp only [List.map_append, List.flatMap_append, List.map_map, Function.comp_def, List.append_assoc] at b1 b2 m1 m2 ⊢
    rw [flatMap_memberNames_nil _ hother, List.nil_append]
    exact List.rel_append (names_other ads) <| List.rel_append b1 <| List.rel_append b2 <| List.rel_append m1 m2
  · rw [regroup_of_not ads hc, namesOf, flatMap_memberNames_nil _ hn]
    simpa using forall2_range ads

/-- **Every given adapter keeps a row under its own name**: for each adapter the user gave there is a row of the regrouped name table that
    stands for it (`origin`) and carries its name. -/
theorem regroup_every_adapter_named (ads : List Matchable) (hn : ∀ m ∈ ads, m.isIndexed = false) (j : Nat) (hj : j < ads.length) :
    ∃ k : Nat, (regroup ads).origin[k]? = some (some j) ∧ (namesOf (regroup ads).ads)[k]? = some (ads[j].name) := by
  obtain ⟨o, ho, rfl⟩ := List.mem_filterMap.mp ((regroup_origin_perm ads).mem_iff.mpr (List.mem_range.mpr hj))
  obtain ⟨k, hk, hget⟩ := List.getElem_of_mem ho
  obtain ⟨hlen, hall⟩ := List.forall₂_iff_get.mp (regroup_names ads hn)
  have hk' : k < (namesOf (regroup ads).ads).length := hlen ▸ hk
  have hname := hall k hk' hk j (by simpa using hget)
  rw [List.getElem?_eq_getElem hj] at hname
  refine ⟨k, ?_, ?_⟩
  · rw [List.getElem?_eq_getElem hk, hget]
  · rw [List.getElem?_eq_getElem hk']
    exact hname.symm

private def exAd (n : String) (s : String) : Matchable :=
  .single { ty := .prefix, seq := s.toUTF8.toList, thr := fun _ => 0, minOverlap := s.length, readWildcards := false,
            adapterWildcards := false, indels := false, name := n }

private def exBack : Matchable :=
  .single { ty := .back, seq := "GGG".toUTF8.toList, thr := fun _ => 0, minOverlap := 3, readWildcards := false,
            adapterWildcards := false, indels := true, name := "y" }

/-- non-vacuity and the shape of the table: two indexable anchored 5' adapters around a regular one are moved behind it into one index,
    whose own row precedes the member rows; the origins point back at the given positions -/
example : namesOf (regroup [exAd "x" "ACGT", exBack, exAd "z" "TTGA"]).ads = ["y", "indexed_prefix_adapters", "x", "z"] ∧
        (regroup [exAd "x" "ACGT", exBack, exAd "z" "TTGA"]).origin = [some 1, none, some 0, some 2] := by
  constructor <;> decide
end Cutadapt.C08
