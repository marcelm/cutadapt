/-! What the scans of `qualtrim.pyx` compute: the first position that maximises a running value among the positions a
    side condition admits. The BWA and poly-A loops maintain it step by step; the 3' variants read it from the other end. -/
namespace Cutadapt

structure FirstMax (A : Nat → Prop) (f : Nat → Int) (n b : Nat) : Prop where
  le : b ≤ n
  adm : A b
  max : ∀ t, t ≤ n → A t → f t ≤ f b
  first : ∀ t, t < b → A t → f t < f b

namespace FirstMax
variable {A : Nat → Prop} {f : Nat → Int} {n b : Nat}

theorem zero (h0 : A 0) : FirstMax A f 0 0 :=
  ⟨Nat.le_refl 0, h0, fun _ ht _ => Nat.le_zero.mp ht ▸ Int.le_refl _, fun _ ht => absurd ht (Nat.not_lt_zero _)⟩

theorem step_new (h : FirstMax A f n b) (ha : A (n+1)) (hf : f b < f (n+1)) : FirstMax A f (n+1) (n+1) where
  le := Nat.le_refl _
  adm := ha
  max t ht hA := (Nat.le_or_eq_of_le_succ ht).elim
    (fun le => Int.le_trans (h.max t le hA) (Int.le_of_lt hf)) (fun e => e ▸ Int.le_refl _)
  first t ht hA := Int.lt_of_le_of_lt (h.max t (Nat.le_of_lt_succ ht) hA) hf

theorem step_keep (h : FirstMax A f n b) (hn : A (n+1) → f (n+1) ≤ f b) : FirstMax A f (n+1) b where
  le := Nat.le_succ_of_le h.le
  adm := h.adm
  max t ht hA := (Nat.le_or_eq_of_le_succ ht).elim (fun le => h.max t le hA) (fun e => by subst e; exact hn hA)
  first := h.first

theorem extend {m : Nat} (h : FirstMax A f n b) (hnm : n ≤ m) (hn : ∀ t, n < t → t ≤ m → ¬ A t) : FirstMax A f m b where
  le := Nat.le_trans h.le hnm
  adm := h.adm
  max t ht hA := (Nat.lt_or_ge n t).elim (fun lt => absurd hA (hn t lt ht)) (fun ge => h.max t ge hA)
  first := h.first

/-- positions counted from the other end, `i = n - t`: the *last* maximiser -/
theorem reflect (h : FirstMax A f n b) {A' : Nat → Prop} {f' : Nat → Int}
    (hA : ∀ t, t ≤ n → (A t ↔ A' (n - t))) (hf : ∀ t, t ≤ n → f t = f' (n - t)) :
    n - b ≤ n ∧ A' (n - b) ∧ (∀ i, i ≤ n → A' i → f' i ≤ f' (n - b)) ∧
    (∀ i, n - b < i → i ≤ n → A' i → f' i < f' (n - b)) := by
  have back : ∀ i, i ≤ n → (A' i → A (n - i)) ∧ f' i = f (n - i) := fun i hi => by
    have hA' := hA (n - i) (Nat.sub_le n i)
    have hf' := hf (n - i) (Nat.sub_le n i)
    rw [Nat.sub_sub_self hi] at hA' hf'
    exact ⟨hA'.mpr, hf'.symm⟩
  refine ⟨Nat.sub_le n b, (hA b h.le).mp h.adm, fun i hi hAi => ?_, fun i hbi hi hAi => ?_⟩
  · rw [(back i hi).2, ← hf b h.le]
    exact h.max _ (Nat.sub_le n i) ((back i hi).1 hAi)
  · rw [(back i hi).2, ← hf b h.le]
    exact h.first _ (by omega) ((back i hi).1 hAi)

end FirstMax

/-! A loop over `ws` that has visited `j` elements has `ws.drop j` before it. -/

theorem take_succ_of_drop {ws cs : List α} {c : α} {j : Nat} (h : ws.drop j = c :: cs) : ws.take (j+1) = ws.take j ++ [c] := by
  have hj : ws[j]? = some c := by rw [← List.head?_drop, h]; rfl
  rw [List.take_add_one, hj]; rfl

theorem drop_succ_of_drop {ws cs : List α} {c : α} {j : Nat} (h : ws.drop j = c :: cs) : ws.drop (j+1) = cs := by
  rw [← List.drop_drop, h]; rfl

theorem eq_length_of_drop {ws : List α} {j : Nat} (h : ws.drop j = []) (hj : j ≤ ws.length) : j = ws.length :=
  Nat.le_antisymm hj (List.drop_eq_nil_iff.mp h)

theorem lt_length_of_drop {ws cs : List α} {c : α} {j : Nat} (h : ws.drop j = c :: cs) : j < ws.length := by
  have := congrArg List.length h
  rw [List.length_drop, List.length_cons] at this; omega

end Cutadapt
