import Cutadapt.Proofs.DpExactScore
/-! Exactness of the banded DP: an error-free copy of the whole reference. Anchored at either end it is reported exactly;
    where both query ends may be skipped, the reported match ends no later than the leftmost copy and starts at or left of it. -/
namespace Cutadapt.Align.Exact
open Cutadapt Cutadapt.Align Cutadapt.Spec Cutadapt.Generated Cutadapt.Align.Sound

/-- a recorded match whose score reaches `m` is an error-free full copy -/
theorem best_exact_of_score {cfg : Cfg} {ref query : Bytes} (hwf : cfg.WF ref.length) {best : Best}
    (hinv : BestInv cfg ref query best) (hS : BestS ref.length best) (hf : best.found = true)
    (hsc : (ref.length : Int) ≤ best.score) :
    best.cost = 0 ∧ best.refStop = ref.length ∧ 0 ≤ best.origin ∧
      best.queryStop = best.origin.toNat + ref.length := by
  obtain ⟨s1, s2, s3, s4⟩ := hS hf
  have hrs : best.refStop = ref.length := by omega
  have hc : best.cost = 0 := by
    apply Nat.eq_zero_of_not_pos
    intro hpos
    have := s2 hpos
    omega
  have ho : 0 ≤ best.origin := by have := s4 hc; omega
  refine ⟨hc, hrs, ho, ?_⟩
  have hs := hinv hf
  obtain ⟨s, hl, hr, hcs⟩ := hs.script
  have hn := seg_lengths_of_cost_zero cfg.eq hwf.indel_pos (by rw [encodeRef_length]; exact hs.h_ae)
    (by rw [encodeQuery_length]; exact hs.h_re) hl hr (by omega)
  have := hs.h_rs
  rw [decode_nonneg ho] at hn this
  simp only at hn this
  omega

theorem cell_origin_match (cfg : Cfg) (diag cur prev : Entry) :
    (cell cfg true diag cur prev).origin = diag.origin := by
  unfold cell
  rw [if_pos rfl]

theorem cell_origin_cases (cfg : Cfg) (b : Bool) (diag cur prev : Entry) :
    (cell cfg b diag cur prev).origin = diag.origin ∨ (cell cfg b diag cur prev).origin = prev.origin ∨
    ((cell cfg b diag cur prev).origin = cur.origin ∧ cur.cost + cfg.indelCost < diag.cost + 1) := by
  cases b
  · unfold cell
    simp only [Bool.false_eq_true, if_false]
    split
    · exact .inl rfl
    · next h =>
      simp only [Bool.and_eq_true, decide_eq_true_eq] at h
      split
      · exact .inr (.inl rfl)
      · exact .inr (.inr ⟨rfl, by omega⟩)
  · exact .inl (cell_origin_match ..)

/-- `ref` occurs without error at query position `p` -/
def CopyAt (ctx : Ctx) (p : Nat) : Prop := ∀ t, t < ctx.ref.length → delta ctx t (p + t) = 0

theorem delta_zero {ctx : Ctx} {i j : Nat} (h : delta ctx i j = 0) :
    charsEqual ctx.ascii (ctx.ref.getD i 0) (ctx.query.getD j 0) = true := by
  unfold delta Ctx.eq at h
  split at h
  · assumption
  · omega

/-- one column step keeps the fresh cells on or above the diagonal of a copy at `p` from starting left of `p`
    (`InvZ.z`, for a bare column; `lf` is the last row the previous step computed) -/
theorem stepColumn_Z {ctx : Ctx} {p : Nat} (hX : CopyAt ctx p) (hsq : ctx.cfg.startInQuery = true)
    {j last lf : Nat} {col : List Entry} (hlen : col.length = ctx.ref.length + 1) (hj : j < ctx.query.length)
    (hlast : last ≤ ctx.ref.length) (hlf : j = 0 ∨ last ≤ lf + 1)
    (hZ : ∀ i, i ≤ ctx.ref.length → (j = 0 ∨ i ≤ lf) → p + i ≤ j → (p : Int) ≤ (col.getD i default).origin)
    (h0 : (col.getD 0 default).origin = (j : Int))
    (hedge : j ≠ 0 → lf < last →
      (col.getD (last - 1) default).cost ≤ ctx.cfg.k ∧ ctx.cfg.k < (col.getD last default).cost)
    {col' : List Entry} (hcol' : stepColumn ctx.cfg ctx.ascii ctx.ref ctx.query[j] last col = col') :
    (col'.getD 0 default).origin = ((j + 1 : Nat) : Int) ∧
    ∀ i, i ≤ last → p + i ≤ j + 1 → (p : Int) ≤ (col'.getD i default).origin := by
  subst hcol'
  have hc0 : (stepCell0 ctx.cfg (col.getD 0 default)).origin = ((j + 1 : Nat) : Int) := by
    unfold stepCell0
    simp only [hsq, if_true]
    rw [h0]; omega
  refine ⟨?_, fun i hil => ?_⟩
  · rw [stepColumn_getD_zero _ hlen]
    exact hc0
  refine stepColumn_ind default hlen (fun i e => i ≤ last → p + i ≤ j + 1 → (p : Int) ≤ e.origin)
    ?_ ?_ ?_ i (Nat.le_trans hil hlast) hil
  · intro _ hp
    rw [hc0]
    omega
  · -- fresh cell `i + 1`: its origin is that of one of its three neighbours
    intro i him _ prev ih hil hp
    have hfresh : j = 0 ∨ i ≤ lf := hlf.imp_right fun h => by omega
    have hpj : p + i ≤ j := Nat.le_of_succ_le_succ hp
    by_cases hon : p + i = j
    · -- on the diagonal of the copy: a match
      have hb : charsEqual ctx.ascii (ctx.ref.getD i 0) ctx.query[j] = true := by
        rw [List.getElem_eq_getD 0, ← hon]
        exact delta_zero (hX i him)
      rw [hb, cell_origin_match]
      exact hZ i (Nat.le_of_lt him) hfresh hpj
    · rcases cell_origin_cases ctx.cfg (charsEqual ctx.ascii (ctx.ref.getD i 0) ctx.query[j]) (col.getD i default)
        (col.getD (i+1) default) prev with h | h | ⟨h, hlt⟩
      · -- from the diagonal neighbour
        rw [h]
        exact hZ i (Nat.le_of_lt him) hfresh hpj
      · -- from the cell above in the new column
        rw [h]
        exact ih (Nat.le_of_succ_le hil) (Nat.le_succ_of_le hpj)
      · -- from the same row of the old column, strictly above the diagonal
        rw [h]
        by_cases hfr : j = 0 ∨ i + 1 ≤ lf
        · exact hZ (i+1) him hfr (Nat.lt_of_le_of_ne hpj hon)
        · -- the cell read is stale: it is above `k` and the diagonal one is not, so it is not taken
          exfalso
          have hj0 : j ≠ 0 := fun h => hfr (.inl h)
          have hlf' : lf < last := by omega
          have hil' : last = i + 1 := by
            rcases hlf with h | h
            · exact absurd h hj0
            · omega
          obtain ⟨h1, h2⟩ := hedge hj0 hlf'
          rw [hil'] at h1 h2
          simp only [Nat.add_sub_cancel] at h1
          omega
  · -- cells below the band are not claimed
    exact fun i _ hlt h => absurd h (Nat.not_le.mpr hlt)

/-- for an error-free copy at query position `p`, where the query start may be skipped: every freshly computed cell on or
    above the diagonal of the copy starts at or right of `p` (`z`). The other fields are what carries this to the next
    column. The band grows by at most one row a column (`lf`); the row it grew by holds a cell the last step did not
    compute, and the next step reads it: that cell is above `k` while its upper neighbour is not (`edge`), so it is never
    the minimum. `so`: the origin `locate` keeps for the last-column search is that of the last computed cell. -/
structure InvZ (cfg : Cfg) (ref query : Bytes) (p j : Nat) (s : LoopState) : Prop where
  lf : j = 0 ∨ s.last ≤ s.lastFilled + 1
  z : ∀ i, i ≤ ref.length → (j = 0 ∨ i ≤ s.lastFilled) → p + i ≤ j → (p : Int) ≤ (s.col.getD i default).origin
  o0 : (s.col.getD 0 default).origin = (j : Int)
  edge : j ≠ 0 → s.lastFilled < s.last →
    (s.col.getD (s.last - 1) default).cost ≤ cfg.k ∧ cfg.k < (s.col.getD s.last default).cost
  last1 : 1 ≤ s.last
  so : j ≠ 0 → s.origin = (s.col.getD s.lastFilled default).origin ∧ 1 ≤ s.lastFilled

theorem columnLoop_Z {cfg : Cfg} {ref query : Bytes} (hwf : cfg.WF ref.length) {p j : Nat}
    (hX : CopyAt (mkCtx cfg ref query) p) (hsq : cfg.startInQuery = true)
    (hj : j < query.length) {s : LoopState} (h : Inv cfg ref query j s) (hu : InvU cfg ref query j s)
    (hz : InvZ cfg ref query p j s) (hd : s.done = false) :
    InvZ cfg ref query p (j+1) (stepAt cfg ref query s j hj) := by
  have hlm := h.last_le
  have hl1 := hz.last1
  obtain ⟨col', hc'⟩ : ∃ c, colAt cfg ref query s j hj = c := ⟨_, rfl⟩
  have hstep := h.stepCol hwf hd hj
  have hU0 := hu.stepCol h hd hj (Nat.zero_le _)
  rw [hc'] at hstep hU0
  obtain ⟨hz0', hzi'⟩ := stepColumn_Z (ctx := mkCtx cfg ref query) hX hsq (j := j) (last := s.last) (lf := s.lastFilled)
    (h.col hd).len (by rw [mkCtx_query_length]; exact hj) (by rw [mkCtx_ref_length]; exact hlm) hz.lf
    (fun i hi => hz.z i (by rw [← mkCtx_ref_length cfg ref query]; exact hi)) hz.o0 hz.edge hc'
  obtain ⟨fcol, ffilled, flast, forigin, _⟩ := stepAt_spec hd hlm hc' rfl
  have hstale : ∀ i, s.last < i → i ≤ ref.length → cfg.k < (col'.getD i default).cost :=
    fun i h1 h2 => (hstep.cell h2).2.2 h1
  have hcost0 : (col'.getD 0 default).cost ≤ cfg.k := by
    unfold UCell at hU0
    rw [D_row_startQ hsq] at hU0
    exact Nat.le_trans (hU0 (Nat.zero_le _)) (Nat.zero_le _)
  have hle := shrinkLast_le cfg.k col' s.last
  have hpos := shrinkLast_pos cfg.k col' hcost0 s.last
  refine { lf := .inr ?_, z := ?_, o0 := ?_, edge := ?_, last1 := ?_, so := ?_ }
  · rw [ffilled, flast]
    exact Nat.le_trans (Nat.min_le_left _ _) hle
  · intro i hi hfr hp
    rw [fcol]
    rw [ffilled] at hfr
    exact hzi' i (hfr.resolve_left (Nat.succ_ne_zero j)) hp
  · rw [fcol]
    exact hz0'
  · -- the band grew: `shrinkLast` gave `last + 1`, so cell `last` is within `k`, and cell `last + 1` is a stale one
    intro _ hlt
    rw [ffilled, flast] at hlt
    have e : shrinkLast cfg.k col' s.last = s.last + 1 := Nat.le_antisymm hle (Nat.le_trans hlt (Nat.min_le_left _ _))
    have hm1 : s.last + 1 ≤ ref.length := Nat.le_trans hlt (Nat.min_le_right _ _)
    rw [fcol, flast, e, Nat.min_eq_left hm1, Nat.add_sub_cancel]
    exact ⟨(shrinkLast_eq_succ _ _ _).mp e, hstale (s.last + 1) (Nat.lt_succ_self _) hm1⟩
  · rw [flast]
    exact Nat.le_min.mpr ⟨hpos, Nat.le_trans hl1 hlm⟩
  · intro _
    rw [fcol, ffilled, forigin hl1]
    exact ⟨rfl, hl1⟩

theorem D_copy_diag {ctx : Ctx} {p : Nat} (hX : CopyAt ctx p) (hsq : ctx.cfg.startInQuery = true) :
    ∀ t, t ≤ ctx.ref.length → D ctx 0 t (p + t) = 0
  | 0, _ => D_row_startQ hsq _
  | t+1, ht => by
    have := D_match (ctx := ctx) (j0 := 0) t (p + t) (by rw [Nat.zero_add]; exact hX t (by omega))
    rw [← Nat.add_assoc, this]
    exact D_copy_diag hX hsq t (by omega)

theorem initState_Z (cfg : Cfg) (ref query : Bytes) (p : Nat)
    (hstop : cfg.stopInQuery = true) (hm : 1 ≤ ref.length) :
    InvZ cfg ref query p 0 (initState cfg ref.length query.length) := by
  have hj0 : minNOf cfg ref.length query.length = 0 := minNOf_stopInQuery hstop _ _
  have h0 : ((initState cfg ref.length query.length).col.getD 0 default).origin = 0 := by
    rw [initState_col_getD _ _ (Nat.zero_le _), hj0]
    -- cell 0 of column 0 starts at `(0, 0)` whatever the flags
    have hdec := initEntry_decode cfg 0 0
    rw [Nat.sub_self, ite_self, ite_self] at hdec
    have h1 := decode_fst (initEntry cfg 0 0).origin
    have h2 := decode_snd (initEntry cfg 0 0).origin
    rw [hdec] at h1 h2
    simp only at h1 h2
    omega
  refine ⟨.inl rfl, fun i hi _ hp => ?_, h0, fun h => absurd rfl h, ?_, fun h => absurd rfl h⟩
  · have hi0 : i = 0 := by omega
    have hp0 : p = 0 := by omega
    subst hi0 hp0
    rw [h0]; exact Int.le_refl _
  · show 1 ≤ (if cfg.startInRef = true then ref.length else min ref.length (cfg.k + 1))
    split <;> omega

theorem score_lt_of_early {cfg : Cfg} {ref query : Bytes} (hwf : cfg.WF ref.length) {c : Nat}
    (hno : ∀ p', p' + ref.length < c → ¬ ∃ s, lhs s = seg (encodeRef cfg ref) 0 ref.length ∧
      rhs s = seg (encodeQuery cfg query) p' (p' + ref.length) ∧ cost cfg.eq cfg.indelCost s = 0)
    {b : Best} (hbi : BestInv cfg ref query b) (hbs : BestS ref.length b) (hf : b.found = true)
    (hq : b.queryStop < c) : b.score < (ref.length : Int) := by
  apply Int.lt_of_not_ge; intro hge
  obtain ⟨hc, hr, ho, hq'⟩ := best_exact_of_score hwf hbi hbs hf hge
  obtain ⟨s, hl, hr', hcs⟩ := (hbi hf).script
  rw [decode_nonneg ho] at hl hr'
  simp only at hl hr'
  rw [hr] at hl
  rw [hq'] at hr'
  rw [hc] at hcs
  exact hno b.origin.toNat (by omega) ⟨s, hl, hr', Nat.le_zero.mp hcs⟩

theorem no_early_exit {cfg : Cfg} {ref query : Bytes} {c j : Nat} {s : LoopState} (hI : Inv cfg ref query j s)
    (hS : InvS cfg ref query j s)
    (hearly : ∀ b, BestInv cfg ref query b → BestS ref.length b → b.found = true → b.queryStop < c →
      b.score < (ref.length : Int))
    (hj : j < c) : s.done = false := by
  cases hdn : s.done
  · rfl
  · obtain ⟨hf, hsc⟩ := hI.doneBest hdn
    have := hearly _ hI.best hS.bestS hf (by have := hS.bestQ hf; omega)
    omega

/-- where an error-free copy starting at `p` ends, either it is recorded and the loop stops, or the recorded match is
    kept because it starts more than `m/2` left of `p` -/
theorem copy_column_step {cfg : Cfg} {ref query : Bytes} (hwf : cfg.WF ref.length) (hmo : cfg.minOverlap ≤ ref.length)
    (hstop : cfg.stopInQuery = true) {p j : Nat} {s s' : LoopState} (hj : j < query.length)
    (hjm : j + 1 = p + ref.length) (hI : Inv cfg ref query j s) (hU : InvU cfg ref query j s) (hd : s.done = false)
    (hD0 : D (mkCtx cfg ref query) 0 ref.length (p + ref.length) = 0)
    (hbs : s.best.found = true → s.best.score < (ref.length : Int))
    (hs : stepAt cfg ref query s j hj = s') :
    (s'.best = ⟨(p : Int), 0, (ref.length : Int), ref.length, j+1, true⟩ ∧ s'.done = true) ∨
    (s'.best = s.best ∧ s'.done = false ∧ s.best.found = true ∧ 0 ≤ s.best.origin ∧
      s.best.origin + ((ref.length / 2 : Nat) : Int) < (p : Int)) := by
  subst hs
  have hj0 : minNOf cfg ref.length query.length = 0 := minNOf_stopInQuery hstop _ _
  obtain ⟨e, hce, hg, hsc, hupd, hnupd⟩ := row_event hwf hj hI hU hd hstop
    (by rw [hj0, Nat.sub_zero, hjm, hD0]; exact Nat.zero_le _) rfl
  rw [hj0, Nat.sub_zero, hjm, hD0] at hce
  have hc0 : e.cost = 0 := Nat.le_zero.mp hce
  obtain ⟨ho, hacc⟩ := exact_cell hwf hmo hjm (by omega) hg hc0
  have hscore : e.score = (ref.length : Int) := by have := hsc.2 hc0; omega
  cases hru : rowUpd cfg ref ref.length s.best e
  · obtain ⟨hb', hdn⟩ := hnupd hru
    cases hfd : s.best.found
    · rw [rowUpd_of_not_found hfd, hacc] at hru; cases hru
    · -- the candidate is acceptable and scores more than the recorded match, yet is not taken:
      -- both criteria of position fail
      have hbetter : s.best.score < e.score := by
        rw [hscore]
        exact hbs hfd
      have h3 : ¬ (e.origin ≤ s.best.origin + ((ref.length / 2 : Nat) : Int) ∨
          (ref.length : Int) + min s.best.origin 0 < ((toNatI ((ref.length : Int) + min e.origin 0) : Nat) : Int)) :=
        fun h => Bool.false_ne_true (hru.symm.trans ((rowUpd_found hfd).mpr ⟨hacc, hbetter, h⟩))
      rw [ho, toNatI_add_min_of_nonneg _ (Int.natCast_nonneg p)] at h3
      exact .inr ⟨hb', hdn, rfl, by omega⟩
  · obtain ⟨hb', hdn⟩ := hupd hru
    rw [hb', hdn, hc0, ho, hscore]
    exact .inl ⟨rfl, by simp⟩

theorem ne_zero_of_origin_lt {o : Int} {h p : Nat} (h1 : 0 ≤ o) (h2 : o + (h : Int) < (p : Int)) : p ≠ 0 := by
  omega

/-- what the leftmost-copy theorem carries through the loop: the invariants so far, and the bookkeeping around the
    column `p + m` where the leftmost error-free copy ends. Before it the loop runs (`running`); from it on a match is
    recorded that ends no later and starts no further right than the copy, and if the loop has not stopped on the copy
    itself, that match starts more than `m/2` left of `p` (`after`), which is what keeps later candidates out. -/
structure CutInv (cfg : Cfg) (ref query : Bytes) (p j : Nat) (s : LoopState) : Prop where
  inv : Inv cfg ref query j s
  invU : InvU cfg ref query j s
  invS : InvS cfg ref query j s
  z : s.done = false → p ≠ 0 → InvZ cfg ref query p j s
  refStop : s.best.found = true → s.best.refStop = ref.length
  running : j < p + ref.length → s.done = false
  after : p + ref.length ≤ j → s.best.found = true ∧ s.best.queryStop ≤ p + ref.length ∧ s.best.origin ≤ (p : Int) ∧
    (s.done = false → 0 ≤ s.best.origin ∧ s.best.origin + ((ref.length / 2 : Nat) : Int) < (p : Int))

/-- the copy is given by `D = 0` at its end and, unless it starts the query, as a diagonal of matches reached by skipping -/
theorem cutInv_step {cfg : Cfg} {ref query : Bytes} (hwf : cfg.WF ref.length)
    (hstop : cfg.stopInQuery = true) (hmo : cfg.minOverlap ≤ ref.length) {p : Nat}
    (hD0 : D (mkCtx cfg ref query) 0 ref.length (p + ref.length) = 0)
    (hX : p ≠ 0 → cfg.startInQuery = true ∧ CopyAt (mkCtx cfg ref query) p)
    (hearly : ∀ b, BestInv cfg ref query b → BestS ref.length b → b.found = true → b.queryStop < p + ref.length →
      b.score < (ref.length : Int))
    {j : Nat} {s : LoopState} (hj : j < query.length) (h : CutInv cfg ref query p j s) :
    CutInv cfg ref query p (j+1) (stepAt cfg ref query s j hj) := by
  obtain ⟨hI, hU, hS, hZ, hrs, hrun, hafter⟩ := h
  have hI' := columnLoop_inv hwf hj hI
  have hU' := columnLoop_U hwf hj hI hU
  have hS' := columnLoop_S hwf hj hI hS
  cases hd : s.done
  case true =>
    -- the loop has stopped, so the end of the copy is passed, and nothing changes
    have hjge : p + ref.length ≤ j := Nat.le_of_not_lt fun hlt => Bool.false_ne_true ((hrun hlt).symm.trans hd)
    rw [stepAt_done hd] at hI' hU' hS' ⊢
    exact {
      inv := hI'
      invU := hU'
      invS := hS'
      z := fun h => Bool.noConfusion (h.symm.trans hd)
      refStop := hrs
      running := fun hlt => absurd hjge (Nat.not_le.mpr (Nat.lt_of_succ_lt hlt))
      after := fun _ => hafter hjge }
  case false =>
    have hZ' := fun hp => columnLoop_Z hwf (hX hp).2 (hX hp).1 hj hI hU (hZ hd hp) hd
    obtain ⟨f1, f2, _, _, f5⟩ := stepAt_spec hd hI.last_le rfl rfl
    refine { inv := hI', invU := hU', invS := hS', z := fun _ => hZ', refStop := ?_,
             running := fun hlt => no_early_exit hI' hS' hearly hlt, after := fun hge => ?_ }
    · rcases f5 with ⟨hb, _⟩ | ⟨_, _, _, _, hb, _⟩
      · rw [hb]
        exact hrs
      · rw [hb]
        exact fun _ => rfl
    · by_cases hjm : j + 1 = p + ref.length
      · -- the column where the copy ends
        rcases copy_column_step hwf hmo hstop hj hjm hI hU hd hD0
          (fun hf => hearly _ hI.best hS.bestS hf (hjm ▸ Nat.lt_succ_of_le (hS.bestQ hf))) rfl
          with ⟨hb, hdn⟩ | ⟨hb, hdn, hf, g1, g2⟩
        · rw [hb, hdn]
          exact ⟨rfl, Nat.le_of_eq hjm, Int.le_refl _, fun h => by cases h⟩
        · rw [hb, hdn]
          exact ⟨hf, Nat.le_trans (hS.bestQ hf) (hjm ▸ Nat.le_succ j), by omega, fun _ => ⟨g1, g2⟩⟩
      · -- beyond: a later last-row cell starts at or right of `p` and fails the update rule
        obtain ⟨hf, hq, ho, hnb⟩ := hafter (Nat.le_of_lt_succ (Nat.lt_of_le_of_ne hge (Ne.symm hjm)))
        obtain ⟨hnb1, hnb2⟩ := hnb hd
        rcases f5 with ⟨hb, hdn⟩ | ⟨_, hl, _, hru, _, _⟩
        · rw [hb, hdn]; exact ⟨hf, hq, ho, fun _ => ⟨hnb1, hnb2⟩⟩
        · -- the last-row cell is fresh and on or above the diagonal of the copy, so it starts at or right of `p`,
          -- more than `m/2` right of the recorded match: neither alternative of the update rule holds
          exfalso
          have hfresh : ref.length ≤ (stepAt cfg ref query s j hj).lastFilled := by
            rw [f2, hl]
            exact Nat.le_refl _
          have hzm := (hZ' (ne_zero_of_origin_lt hnb1 hnb2)).z ref.length (Nat.le_refl _) (.inr hfresh) hge
          rw [f1] at hzm
          obtain ⟨_, _, h | h⟩ := (rowUpd_found hf).mp hru
          · omega
          · rw [toNatI_add_min_of_nonneg _ (Int.le_trans (Int.natCast_nonneg p) hzm)] at h; omega

/-- the leftmost error-free copy, at an admissible start `p`: what holds after the column loop -/
theorem finalState_cut {cfg : Cfg} {ref query : Bytes} (hwf : cfg.WF ref.length) (hstop : cfg.stopInQuery = true)
    (hmo : cfg.minOverlap ≤ ref.length) (hm : 1 ≤ ref.length) {p : Nat}
    (hD0 : D (mkCtx cfg ref query) 0 ref.length (p + ref.length) = 0)
    (hX : p ≠ 0 → cfg.startInQuery = true ∧ CopyAt (mkCtx cfg ref query) p)
    (hleast : ∀ p', p' < p → ¬ ∃ s, lhs s = seg (encodeRef cfg ref) 0 ref.length ∧
      rhs s = seg (encodeQuery cfg query) p' (p' + ref.length) ∧ cost cfg.eq cfg.indelCost s = 0) :
    CutInv cfg ref query p (maxNOf cfg ref.length query.length) (finalState cfg ref query) := by
  have hj0 : minNOf cfg ref.length query.length = 0 := minNOf_stopInQuery hstop _ _
  have hcase : minNOf cfg ref.length query.length = 0 ∨ cfg.startInQuery = true := .inl hj0
  have h0 : CutInv cfg ref query p (minNOf cfg ref.length query.length) (initState cfg ref.length query.length) := {
    inv := initState_inv hwf
    invU := initState_U hwf hcase
    invS := initState_S cfg ref query hcase
    z := fun _ _ => by rw [hj0]; exact initState_Z cfg ref query p hstop hm
    refStop := fun hf => by cases hf
    running := fun _ => rfl
    -- the copy does not end at column 0
    after := fun hge => by rw [hj0] at hge; omega }
  -- a recorded match that scores `m` before the copy ends contradicts leftmost-ness
  have hearly : ∀ b, BestInv cfg ref query b → BestS ref.length b → b.found = true → b.queryStop < p + ref.length →
      b.score < (ref.length : Int) :=
    fun b hbi hbs hf hq => score_lt_of_early hwf (fun p' hp => hleast p' (by omega)) hbi hbs hf hq
  have hP := finalState_ind cfg ref query (CutInv cfg ref query p) h0
    (fun j s hj _ _ h => cutInv_step hwf hstop hmo hD0 hX hearly hj h)
  rw [hj0, Nat.zero_max] at hP
  exact hP

/-- an error-free copy at the start of the query is reported exactly where the query end may be skipped -/
theorem locate_copy_at_start (cfg : Cfg) (ref query : Bytes) (hwf : cfg.WF ref.length) (hsq : cfg.stopInQuery = true)
    (hmo : cfg.minOverlap ≤ ref.length) (hm : 1 ≤ ref.length) (hmn : ref.length ≤ query.length)
    (hexact : ∃ s, lhs s = seg (encodeRef cfg ref) 0 ref.length ∧ rhs s = seg (encodeQuery cfg query) 0 ref.length ∧
      cost cfg.eq cfg.indelCost s = 0) :
    locate cfg ref query = some (0, ref.length, 0, ref.length, (ref.length : Int), 0) := by
  have hmaxN : 0 + ref.length ≤ maxNOf cfg ref.length query.length := by unfold maxNOf; split <;> omega
  have hD0 : D (mkCtx cfg ref query) 0 ref.length (0 + ref.length) = 0 := by
    obtain ⟨s, hl, hr, hc⟩ := hexact
    rw [Nat.zero_add]
    exact Nat.le_zero.mp (Nat.le_trans (D_le_cost (ctx := mkCtx cfg ref query) (j0 := 0)
      ⟨.inl rfl, .inl rfl, .inl rfl, Nat.le_refl _⟩ (Nat.zero_le _) (by rw [mkCtx_ref_length]; exact Nat.le_refl _)
      (Nat.zero_le _) (by rw [mkCtx_query_length]; exact hmn) hl hr) (Nat.le_of_eq hc))
  obtain ⟨hI, _, hS, _, _, _, hafter⟩ := finalState_cut hwf hsq hmo hm hD0 (fun hp => absurd rfl hp)
    (fun p' hp => absurd hp (Nat.not_lt_zero _))
  obtain ⟨hf, _, ho, hnb⟩ := hafter hmaxN
  -- a recorded match starts at 0 as well, so it is not kept: the loop has stopped at the copy
  have hd : (finalState cfg ref query).done = true := by
    cases hd : (finalState cfg ref query).done
    · have := hnb hd; omega
    · rfl
  have hsc := (hI.doneBest hd).2
  obtain ⟨hc, hr, ho', hq⟩ := best_exact_of_score hwf hI.best hS.bestS hf hsc
  have hfb : finalBest cfg ref query = (finalState cfg ref query).best :=
    finalBest_ind hwf (· = _) rfl (fun _ hd' => by rw [hd] at hd'; cases hd')
  have hO : (finalState cfg ref query).best.origin = 0 := by omega
  have hscore : (finalState cfg ref query).best.score = (ref.length : Int) := by
    have := (hS.bestS hf).1
    rw [hr] at this
    omega
  rw [locate_eq, hfb, hf, hr, hq, hO, hc, hscore]
  simp [decode]

theorem finalBest_cut (cfg : Cfg) (ref query : Bytes) (hwf : cfg.WF ref.length)
    (hsq : cfg.startInQuery = true) (hstop : cfg.stopInQuery = true) (hm : 1 ≤ ref.length)
    (hmo : cfg.minOverlap ≤ ref.length) {p : Nat} (hpn : p + ref.length ≤ query.length)
    (hX : CopyAt (mkCtx cfg ref query) p)
    (hleast : ∀ p', p' < p → ¬ ∃ s, lhs s = seg (encodeRef cfg ref) 0 ref.length ∧
      rhs s = seg (encodeQuery cfg query) p' (p' + ref.length) ∧ cost cfg.eq cfg.indelCost s = 0) :
    (finalBest cfg ref query).found = true ∧ (finalBest cfg ref query).origin ≤ (p : Int) ∧
      (finalBest cfg ref query).queryStop ≤ p + ref.length := by
  have hmaxN : maxNOf cfg ref.length query.length = query.length := by unfold maxNOf; simp [hsq]
  have hP := finalState_cut hwf hstop hmo hm
    (D_copy_diag hX hsq ref.length (by rw [mkCtx_ref_length]; exact Nat.le_refl _)) (fun _ => ⟨hsq, hX⟩) hleast
  rw [hmaxN] at hP
  obtain ⟨hI, _, _, hZ, hrs, _, hafter⟩ := hP
  obtain ⟨hf, hq, ho, hnb⟩ := hafter hpn
  -- the last-column search changes nothing: its rows are compared through the stale origin, which is right of `p`
  have hfb : finalBest cfg ref query = (finalState cfg ref query).best := by
    refine finalBest_ind hwf (· = _) rfl (fun _ hd i b _ hi hb hupd => ?_)
    subst hb
    exfalso
    obtain ⟨hnb1, hnb2⟩ := hnb hd
    have hz := hZ hd (ne_zero_of_origin_lt hnb1 hnb2)
    obtain ⟨hso, _⟩ := hz.so (Nat.ne_of_gt (Nat.lt_of_lt_of_le hm (Nat.le_trans (Nat.le_add_left _ p) hpn)))
    have hsop : (p : Int) ≤ (finalState cfg ref query).origin := by
      rw [hso]
      exact hz.z _ hI.filled_le (.inr (Nat.le_refl _)) (Nat.le_trans (Nat.add_le_add_left hI.filled_le p) hpn)
    have := hI.filled_le
    obtain ⟨_, _, h | h⟩ := (colUpd_found hf).mp hupd
    · omega
    · rw [hrs hf, toNatI_add_min] at h
      omega
  rw [hfb]
  exact ⟨hf, ho, hq⟩

/-- an error-free copy at the end of the query is reported exactly -/
theorem locate_copy_at_end (cfg : Cfg) (ref query : Bytes) (hwf : cfg.WF ref.length)
    (h2 : cfg.startInQuery = true) (h3 : cfg.stopInRef = false)
    (h4 : cfg.stopInQuery = false)
    (hmo : cfg.minOverlap ≤ ref.length) (hm : 1 ≤ ref.length) (hmn : ref.length ≤ query.length)
    (hexact : ∃ s, lhs s = seg (encodeRef cfg ref) 0 ref.length ∧
      rhs s = seg (encodeQuery cfg query) (query.length - ref.length) query.length ∧
      cost cfg.eq cfg.indelCost s = 0) :
    locate cfg ref query =
      some (0, ref.length, query.length - ref.length, query.length, (ref.length : Int), 0) := by
  -- `D` is 0 at the last cell, so the search finds a match (`finalBest_found`). Which one: the query end may not be
  -- skipped, so the loop records nothing; the reference end may not be skipped, so the search looks at the last row only,
  -- and the cell there has cost 0, which fixes its start (`exact_cell`).
  have hcase : minNOf cfg ref.length query.length = 0 ∨ cfg.startInQuery = true := .inr h2
  have hj0 : minNOf cfg ref.length query.length ≤ query.length - ref.length := by
    unfold minNOf
    rw [h4]
    exact Nat.sub_le_sub_left (Nat.le_add_right _ _) _
  have hmaxN : maxNOf cfg ref.length query.length = query.length := by unfold maxNOf; simp [h2]
  have hD0 : D (mkCtx cfg ref query) (minNOf cfg ref.length query.length) ref.length
      (query.length - minNOf cfg ref.length query.length) = 0 := by
    obtain ⟨s, hl, hr, hc⟩ := hexact
    exact Nat.le_zero.mp (Nat.le_trans (D_le_cost (ctx := mkCtx cfg ref query) (r0 := 0)
      (q0 := query.length - ref.length) ⟨.inl rfl, .inr h2, .inl rfl, hj0⟩ (Nat.zero_le _)
      (by rw [mkCtx_ref_length]; exact Nat.le_refl _) (by omega) (by rw [mkCtx_query_length]; exact Nat.le_refl _) hl hr)
      (Nat.le_of_eq hc))
  have hmin := minNOf_le cfg ref.length query.length
  have hexc : ∀ e, Good (mkCtx cfg ref query) ref.length query.length e → e.cost = 0 →
      e.origin = ((query.length - ref.length : Nat) : Int) ∧ accB cfg ref ref.length ref.length e = true :=
    fun e hg h0 => exact_cell hwf hmo (by omega) (Nat.le_refl _) hg h0
  have hfound : (finalBest cfg ref query).found = true :=
    finalBest_found hwf hcase (.inr ⟨rfl, hmaxN, by omega, fun _ => rfl, Nat.le_refl _⟩)
      ⟨by rw [hD0]; exact Nat.zero_le _, fun e hg hc => (hexc e hg (by rw [hD0] at hc; exact Nat.le_zero.mp hc)).2⟩
  have hP := finalState_ind cfg ref query
    (fun j s => (Inv cfg ref query j s ∧ InvU cfg ref query j s) ∧ s.done = false ∧ s.best.found = false)
    ⟨⟨initState_inv hwf, initState_U hwf hcase⟩, rfl, rfl⟩
    (fun j s hj _ _ ⟨⟨hI, hU⟩, hd, hf⟩ => by
      refine ⟨⟨columnLoop_inv hwf hj hI, columnLoop_U hwf hj hI hU⟩, ?_⟩
      obtain ⟨_, _, _, _, f5⟩ := stepAt_spec hd hI.last_le rfl rfl
      rcases f5 with ⟨hb, hdn⟩ | ⟨hh, _⟩
      · exact ⟨hdn, by rw [hb]; exact hf⟩
      · rw [h4] at hh; cases hh)
  rw [hmaxN, Nat.max_eq_right hmin] at hP
  obtain ⟨⟨hI, hU⟩, hd, hf⟩ := hP
  have hfb : (finalBest cfg ref query).found = true → finalBest cfg ref query =
      ⟨((query.length - ref.length : Nat) : Int), 0, (ref.length : Int), ref.length, query.length, true⟩ := by
    refine finalBest_ind hwf (fun b => b.found = true → b = _) (fun h => by rw [hf] at h; cases h)
      (fun _ _ i _ hsr hi _ _ _ => ?_)
    obtain rfl : i = ref.length := Nat.le_antisymm (Nat.le_trans hi hI.filled_le) (hsr h3)
    have hcost := (hU.u hd).u ref.length (by rw [mkCtx_ref_length]; exact Nat.le_refl _) (by rw [hD0]; exact Nat.zero_le _)
    rw [hD0] at hcost
    have hc0 := Nat.le_zero.mp hcost
    have hsc := (hI.score ref.length (Nat.le_refl _)).2 hc0
    obtain ⟨ho, _⟩ := hexc _ (((hI.col hd).cell (Nat.le_refl _)).1 (by rw [hc0]; exact Nat.zero_le _)) hc0
    rw [hc0, ho, hsc, ho]
    congr 1; omega
  rw [locate_eq, hfb hfound]
  simp [decode]

end Cutadapt.Align.Exact
