import Cutadapt.Properties.C06
import Cutadapt.Proofs.StatsMerge
import Cutadapt.Properties.C20
/-! C06, second part (kept in a file of its own because `Cutadapt.Action` of the modifiers and `Runner.Action` of the protocol
    would clash): the merge operation of the protocol theorems instantiated with cutadapt's `Statistics.__iadd__`. -/
namespace Cutadapt.C06
open Cutadapt

/-! ## The statistics, concretely: `Statistics.__iadd__` (model: `Cutadapt/StatsMerge.lean`)

The protocol theorems of `Properties/C06.lean` take the merge operation as a parameter (`IsCommMonoid add zero`). For the counters of cutadapt's report
(`Summary`: reads, base pairs, written reads and bases, the filter counters, quality-trimmed bases, poly-A histograms, with-adapter and
reverse-complemented counts) the hypothesis is discharged here, up to `SummaryEq` — equality of every figure, tables compared entry by
entry, which is what the report prints. -/

open Cutadapt.Steps in
/-- **Merging the statistics of the chunks gives the statistics of the whole input**, for every way of cutting the event log of a run
    into chunks: `stats = Statistics(); for chunk in chunks: stats += statistics(chunk)` reports the same figures as one run over
    everything. -/
theorem merged_statistics_of_any_chunking (chunks : List (List Event)) :
    SummaryEq (mergeAll (chunks.map summarize)) (summarize chunks.flatten) :=
  (mergeAll_isSum _ (by
    intro x hx
    obtain ⟨e, _, rfl⟩ := List.mem_map.mp hx
    exact keysNodup_summarize e)).unique (summarize_flatten chunks)

open Cutadapt.Steps in
/-- **… in whatever order the workers' statistics arrive** -/
theorem merged_statistics_order_independent (parts parts' : List Summary) (h : parts.Perm parts') (hk : ∀ x ∈ parts, KeysNodup x) :
    SummaryEq (mergeAll parts) (mergeAll parts') :=
  ((mergeAll_isSum parts hk).perm h).unique (mergeAll_isSum parts' (fun x hx => hk x (h.mem_iff.mpr hx)))

open Cutadapt.Steps in
theorem isSum_zero_left (a : Summary) : IsSum a [Summary.zero, a] :=
  isSum_iff.2 fun f => by simp [fig_zero]

open Cutadapt.Steps in
theorem isSum_zero_right (a : Summary) : IsSum a [a, Summary.zero] :=
  (isSum_zero_left a).perm (List.Perm.swap a Summary.zero [])

open Cutadapt.Steps in
/-- `a += b` and `b += a` report the same figures; `(a += b) += c` and `a += (b += c)` too; `Statistics()` is neutral -/
theorem statistics_merge_comm_assoc (a b c : Summary) (ha : KeysNodup a) (hb : KeysNodup b) (hc : KeysNodup c) :
    SummaryEq (a.merge b) (b.merge a) ∧ SummaryEq ((a.merge b).merge c) (a.merge (b.merge c)) ∧
    SummaryEq (Summary.zero.merge a) a ∧ SummaryEq (a.merge Summary.zero) a := by
  refine ⟨?_, ?_, ?_, ?_⟩
  · exact ((merge_isSum a b hb).perm (List.Perm.swap b a [])).unique (merge_isSum b a ha)
  · have h1 : IsSum ((a.merge b).merge c) [a, b, c] := (merge_isSum a b hb).snoc c hc
    have h2 : IsSum (a.merge (b.merge c)) [a, b, c] := (isSum_self a).append (merge_isSum b c hc) (keysNodup_merge b c hb)
    exact h1.unique h2
  · exact (merge_isSum Summary.zero a ha).unique (isSum_zero_left a)
  · exact (merge_isSum a Summary.zero keysNodup_zero).unique (isSum_zero_right a)

/-- a concrete instance: the counters of two chunks, one with a filtered read and a poly-A tail, merged in both orders -/
example :
    let a := summarize [.input 10 none, .filtered 2, .polyA 0 5]
    let b := summarize [.input 7 none, .sinkStat 3 7 none, .polyA 0 5, .filtered 1]
    (a.merge b).n = 2 ∧ (a.merge b).bp1 = 17 ∧ getCount 5 (a.merge b).polyA1 = 2 ∧ getCount 2 (b.merge a).filteredByStep = 1 ∧
    (a.merge b).written = 1 := by decide +kernel

/-- two per-adapter statistics objects report the same figures -/
structure AdapterStatsEq (s t : AdapterStats) : Prop where
  rc : s.reverseComplemented = t.reverseComplemented
  frontErrors : ∀ k, getCount k s.front.errors = getCount k t.front.errors
  backErrors : ∀ k, getCount k s.back.errors = getCount k t.back.errors
  backAdjacent : ∀ k, getCount k s.back.adjacent = getCount k t.back.adjacent
  frontAdjacent : ∀ k, getCount k s.front.adjacent = getCount k t.front.adjacent

theorem appliedTo_append (side a : Nat) (e1 e2 : List Event) : appliedTo side a (e1 ++ e2) = appliedTo side a e1 ++ appliedTo side a e2 :=
  Cutadapt.appliedTo_append side a e1 e2

open Cutadapt.Steps in
/-- **Per-adapter statistics of two chunks, merged position by position, are the per-adapter statistics of both chunks processed as one**
    (`AdapterStatistics.__iadd__`: both ends' histograms, the adjacent bases, the reverse-complement counter) — for every adapter of the
    list, every split of the event log. -/
theorem merged_adapter_statistics (ads : List Matchable) (side : Nat) (e1 e2 : List Event) (a : Nat) (ad : Matchable)
    (h : ads[a]? = some ad) :
    ∃ s1 s2 s, (adapterStats ads side e1)[a]? = some s1 ∧ (adapterStats ads side e2)[a]? = some s2 ∧
      (adapterStats ads side (e1 ++ e2))[a]? = some s ∧ AdapterStatsEq (s1.merge s2) s := by
  obtain ⟨s1, h1, f1, b1, j1, z1, r1, _, _, _⟩ := C20.stats_are_tally ads side e1 a ad h
  obtain ⟨s2, h2, f2, b2, j2, z2, r2, nf2, nb2, na2⟩ := C20.stats_are_tally ads side e2 a ad h
  obtain ⟨s, h3, f3, b3, j3, z3, r3, _, _, _⟩ := C20.stats_are_tally ads side (e1 ++ e2) a ad h
  refine ⟨s1, s2, s, h1, h2, h3, ?_, ?_, ?_, ?_, ?_⟩
  · simp [AdapterStats.merge, r1, r2, r3, appliedTo_append]
  · intro k
    obtain ⟨len, e⟩ := k
    simp only [AdapterStats.merge, EndStats.merge]
    rw [getCount_mergeCounts _ _ _ nf2, f1, f2, f3, appliedTo_append]
    simp
  · intro k
    obtain ⟨len, e⟩ := k
    simp only [AdapterStats.merge, EndStats.merge]
    rw [getCount_mergeCounts _ _ _ nb2, b1, b2, b3, appliedTo_append]
    simp
  · intro k
    simp only [AdapterStats.merge, EndStats.merge]
    rw [getCount_mergeCounts _ _ _ na2, j1, j2, j3, appliedTo_append]
    simp
  · intro k
    simp [AdapterStats.merge, EndStats.merge, z1, z2, z3, mergeCounts, getCount]

/-- … and `mergeAdapterStats` of two complete lists is that position-by-position merge (the lists of two workers are equally long:
    one entry per adapter) -/
theorem mergeAdapterStats_of_runs (ads : List Matchable) (side : Nat) (e1 e2 : List Event) (hne : ads ≠ []) :
    mergeAdapterStats (adapterStats ads side e1) (adapterStats ads side e2)
      = .ok (List.zipWith AdapterStats.merge (adapterStats ads side e1) (adapterStats ads side e2)) := by
  have ne : ∀ e, (adapterStats ads side e).isEmpty = false := fun e => by
    rw [List.isEmpty_eq_false_iff, ← List.length_pos_iff, C20.stats_length]
    exact List.length_pos_iff.2 hne
  unfold mergeAdapterStats
  rw [ne, ne, C20.stats_length, C20.stats_length, bne_self_eq_false]
  rfl

end Cutadapt.C06
