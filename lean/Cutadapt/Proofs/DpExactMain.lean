import Cutadapt.Proofs.DpExactMatrix
/-! Exactness of the banded DP: every cell is at or below `D` wherever `D ≤ k` (Ukkonen's band), hence the reported cost
    is minimal. -/
namespace Cutadapt.Align.Exact
open Cutadapt Cutadapt.Align Cutadapt.Spec Cutadapt.Generated Cutadapt.Align.Sound

/-- the cell is exact from above: if the true value is within the band limit, the cell does not exceed it -/
def UCell (ctx : Ctx) (j0 i t : Nat) (e : Entry) : Prop :=
  D ctx j0 i t ≤ ctx.cfg.k → e.cost ≤ D ctx j0 i t

variable {ctx : Ctx} {j0 : Nat}

theorem cell_cost_mismatch (cfg : Cfg) (diag cur prev : Entry) :
    (cell cfg false diag cur prev).cost ≤ diag.cost + 1 ∧
    (cell cfg false diag cur prev).cost ≤ prev.cost + cfg.indelCost ∧
    (cell cfg false diag cur prev).cost ≤ cur.cost + cfg.indelCost := by
  unfold cell
  simp only [Bool.false_eq_true, if_false]
  split
  · next h =>
    simp only [Bool.and_eq_true, decide_eq_true_eq] at h
    simp only
    omega
  · next h =>
    simp only [Bool.and_eq_true, decide_eq_true_eq] at h
    split <;> simp only <;> omega

theorem cell_U {i t : Nat} {diag cur prev : Entry}
    (hd : UCell ctx j0 i t diag) (hc : UCell ctx j0 (i+1) t cur) (hp : UCell ctx j0 i (t+1) prev) :
    UCell ctx j0 (i+1) (t+1)
      (cell ctx.cfg (ctx.eq (ctx.ref.getD i 0) (ctx.query.getD (j0 + t) 0)) diag cur prev) := by
  intro hk
  cases hb : ctx.eq (ctx.ref.getD i 0) (ctx.query.getD (j0 + t) 0)
  · -- mismatch: the neighbour that attains the minimum in `D_succ` is within `k`, so its cell is exact from above
    have hdel : delta ctx i (j0 + t) = 1 := by
      unfold delta
      rw [hb]
      rfl
    obtain ⟨c1, c2, c3⟩ := cell_cost_mismatch ctx.cfg diag cur prev
    rw [D_succ, hdel] at hk ⊢
    unfold UCell at hd hc hp
    omega
  · have hdel : delta ctx i (j0 + t) = 0 := by
      unfold delta
      rw [hb]
      rfl
    rw [D_match i t hdel] at hk ⊢
    exact hd hk

theorem stepCell0_U {t : Nat} {c0 : Entry} (h : UCell ctx j0 0 t c0) :
    UCell ctx j0 0 (t+1) (stepCell0 ctx.cfg c0) := by
  unfold stepCell0 UCell at *
  cases hq : ctx.cfg.startInQuery
  case true =>
    -- row 0 of `D` is 0 throughout, and the cell keeps its cost
    rw [if_pos rfl, D_row_startQ hq] at *
    exact h
  case false =>
    -- row 0 of `D` and the cell both grow by one insertion
    rw [if_neg Bool.false_ne_true]
    rw [D_row_noStartQ hq] at *
    rw [Nat.add_mul, Nat.one_mul]
    intro hk
    have := h (by omega)
    show c0.cost + ctx.cfg.indelCost ≤ _
    omega

/-- exactness-from-above of a column, together with the lower edge of the band -/
structure UInv (ctx : Ctx) (j0 t last : Nat) (col : List Entry) : Prop where
  u : ∀ i, i ≤ ctx.ref.length → UCell ctx j0 i t (col.getD i default)
  edge : ∀ i, last ≤ i → i < ctx.ref.length → ctx.cfg.k < (col.getD i default).cost

/-- rows below the band of column `t` stay above `k` in column `t+1` (Ukkonen's cut-off) -/
theorem D_high_beyond {t last : Nat} {col : List Entry} (hu : UInv ctx j0 t last col) :
    ∀ i, last < i → i ≤ ctx.ref.length → ctx.cfg.k < D ctx j0 i (t+1) := by
  intro i h1 h2
  obtain ⟨i', rfl⟩ : ∃ i', i = i' + 1 := ⟨i - 1, by omega⟩
  have hc := hu.edge i' (by omega) (by omega)
  have hu' : D ctx j0 i' t ≤ ctx.cfg.k → _ := hu.u i' (by omega)
  have := D_diag (ctx := ctx) (j0 := j0) i' t
  omega

theorem stepColumn_U {t j : Nat} (hj : j = j0 + t) (hjn : j < ctx.query.length) {last : Nat} {col : List Entry}
    (hlen : col.length = ctx.ref.length + 1) (hu : UInv ctx j0 t last col) :
    ∀ i, i ≤ ctx.ref.length →
      UCell ctx j0 i (t+1) ((stepColumn ctx.cfg ctx.ascii ctx.ref ctx.query[j] last col).getD i default) := by
  subst hj
  rw [List.getElem_eq_getD 0]
  refine stepColumn_ind default hlen (fun i e => UCell ctx j0 i (t+1) e) (stepCell0_U (hu.u 0 (Nat.zero_le _))) ?_ ?_
  · exact fun i hi _ prev hp => cell_U (hu.u i (by omega)) (hu.u (i+1) (by omega)) hp
  · exact fun i hi hlt h => absurd h (Nat.not_le.mpr (D_high_beyond hu (i+1) hlt (by omega)))

theorem initEntry_U (hcase : j0 = 0 ∨ ctx.cfg.startInQuery = true) (i : Nat) :
    UCell ctx j0 i 0 (initEntry ctx.cfg j0 i) := by
  intro _
  rw [D_col0, initEntry_cost]
  cases h1 : ctx.cfg.startInRef <;> cases h2 : ctx.cfg.startInQuery <;>
    simp only [h2, Bool.false_eq_true, if_false, if_true, or_false, and_false, and_true] at hcase ⊢
  · subst hcase
    rw [Nat.max_zero]
    exact Nat.le_refl _
  · exact Nat.le_refl _
  · subst hcase; simp
  · split
    · next h => subst h; simp
    · exact Nat.mul_le_mul_right _ (Nat.min_le_left _ _)

/-- the recorded match lies in a processed column and is exact from above -/
def BestU (ctx : Ctx) (j0 : Nat) (b : Best) : Prop :=
  b.found = true → j0 ≤ b.queryStop ∧
    (D ctx j0 b.refStop (b.queryStop - j0) ≤ ctx.cfg.k → b.cost ≤ D ctx j0 b.refStop (b.queryStop - j0))

/-- exactness from above along the loop, relative to its first column `minNOf` -/
structure InvU (cfg : Cfg) (ref query : Bytes) (j : Nat) (s : LoopState) : Prop where
  ge : minNOf cfg ref.length query.length ≤ j
  u : s.done = false →
    UInv (mkCtx cfg ref query) (minNOf cfg ref.length query.length) (j - minNOf cfg ref.length query.length) s.last s.col
  bestU : BestU (mkCtx cfg ref query) (minNOf cfg ref.length query.length) s.best

theorem InvU.stepCol {cfg : Cfg} {ref query : Bytes} {j : Nat} {s : LoopState} (h : Inv cfg ref query j s)
    (hu : InvU cfg ref query j s) (hd : s.done = false) (hj : j < query.length) {i : Nat} (hi : i ≤ ref.length) :
    UCell (mkCtx cfg ref query) (minNOf cfg ref.length query.length) i (j + 1 - minNOf cfg ref.length query.length)
      ((colAt cfg ref query s j hj).getD i default) := by
  have hge := hu.ge
  rw [show j + 1 - minNOf cfg ref.length query.length = j - minNOf cfg ref.length query.length + 1 by omega]
  exact stepColumn_U (ctx := mkCtx cfg ref query) (by omega) (by rw [mkCtx_query_length]; exact hj) (h.col hd).len
    (hu.u hd) i (by rw [mkCtx_ref_length]; exact hi)

theorem InvU.beyond {cfg : Cfg} {ref query : Bytes} {j : Nat} {s : LoopState} (hu : InvU cfg ref query j s)
    (hd : s.done = false) {i : Nat} (h1 : s.last < i) (h2 : i ≤ ref.length) :
    cfg.k < D (mkCtx cfg ref query) (minNOf cfg ref.length query.length) i (j + 1 - minNOf cfg ref.length query.length) := by
  have hge := hu.ge
  rw [show j + 1 - minNOf cfg ref.length query.length = j - minNOf cfg ref.length query.length + 1 by omega]
  exact D_high_beyond (hu.u hd) i h1 (by rw [mkCtx_ref_length]; exact h2)

theorem columnLoop_U {cfg : Cfg} {ref query : Bytes} (hwf : cfg.WF ref.length) {j : Nat}
    (hj : j < query.length) {s : LoopState} (h : Inv cfg ref query j s) (hu : InvU cfg ref query j s) :
    InvU cfg ref query (j+1) (stepAt cfg ref query s j hj) := by
  have hge := hu.ge
  cases hd : s.done
  case true =>
    rw [stepAt_done hd]
    exact { ge := Nat.le_succ_of_le hge, u := fun h' => Bool.noConfusion (h'.symm.trans hd), bestU := hu.bestU }
  case false =>
    have hstep := h.stepCol hwf hd hj
    obtain ⟨f1, _, f3, _, f5⟩ := stepAt_spec hd h.last_le rfl rfl
    refine { ge := Nat.le_succ_of_le hge, u := fun _ => { u := fun i hi => ?_, edge := fun i h1 h2 => ?_ }, bestU := ?_ }
    · rw [f1]
      exact hu.stepCol h hd hj (by rw [← mkCtx_ref_length cfg ref query]; exact hi)
    · -- below the new band limit and above the last row: the limit is `shrinkLast`'s, beyond which cells are above `k`
      rw [f3] at h1
      rw [f1]
      have hsh : shrinkLast cfg.k (colAt cfg ref query s j hj) s.last ≤ i := by
        rw [mkCtx_ref_length] at h2
        omega
      exact shrink_edge hstep i hsh (Nat.le_of_lt h2)
    · rcases f5 with ⟨hb, _⟩ | ⟨_, _, _, _, hb, _⟩
      · rw [hb]; exact hu.bestU
      · rw [hb]
        exact fun _ => ⟨by simp only; omega, hu.stepCol h hd hj (Nat.le_refl _)⟩

theorem initState_U {cfg : Cfg} {ref query : Bytes} (hwf : cfg.WF ref.length)
    (hcase : minNOf cfg ref.length query.length = 0 ∨ cfg.startInQuery = true) :
    InvU cfg ref query (minNOf cfg ref.length query.length) (initState cfg ref.length query.length) := by
  refine { ge := Nat.le_refl _, u := fun _ => { u := fun i hi => ?_, edge := fun i h1 h2 => ?_ }, bestU := fun h => (by cases h) }
  · rw [mkCtx_ref_length] at hi
    rw [Nat.sub_self, initState_col_getD _ _ hi]
    exact initEntry_U hcase i
  · rw [mkCtx_ref_length] at h2
    rw [initState_col_getD _ _ (Nat.le_of_lt h2)]
    exact initEntry_beyond hwf.indel_pos _ h1 (Nat.lt_of_le_of_lt h1 h2)

theorem finalBest_U {cfg : Cfg} {ref query : Bytes} (hwf : cfg.WF ref.length)
    (hcase : minNOf cfg ref.length query.length = 0 ∨ cfg.startInQuery = true) :
    BestU (mkCtx cfg ref query) (minNOf cfg ref.length query.length) (finalBest cfg ref query) := by
  obtain ⟨hinv, hu⟩ := finalState_ind cfg ref query (fun j s => Inv cfg ref query j s ∧ InvU cfg ref query j s)
    ⟨initState_inv hwf, initState_U hwf hcase⟩
    (fun _ _ hj _ _ ⟨hI, hU⟩ => ⟨columnLoop_inv hwf hj hI, columnLoop_U hwf hj hI hU⟩)
  have hmin := minNOf_le cfg ref.length query.length
  refine finalBest_ind hwf _ hu.bestU (fun hmn hd i _ _ hi _ _ _ => ?_)
  rw [hmn, Nat.max_eq_right hmin] at hinv hu
  exact ⟨hmin, (hu.u hd).u i (by rw [mkCtx_ref_length]; exact Nat.le_trans hi hinv.filled_le)⟩

/-- an alignment of cost ≤ k between admissibly placed intervals starts at or after the first processed column -/
theorem start_ge_minN {cfg : Cfg} {ref query : Bytes} (hwf : cfg.WF ref.length) {as ae rs re : Nat}
    (hae : ae ≤ ref.length) (hstop : cfg.stopInQuery = false → re = query.length)
    {s : List Op} (hl : lhs s = seg (encodeRef cfg ref) as ae) (hr : rhs s = seg (encodeQuery cfg query) rs re)
    (hc : cost cfg.eq cfg.indelCost s ≤ cfg.k) : minNOf cfg ref.length query.length ≤ rs := by
  cases hsq : cfg.stopInQuery
  case true =>
    rw [minNOf_stopInQuery hsq]
    exact Nat.zero_le _
  case false =>
    -- the alignment ends at the query end, and its query part is at most `k` longer than its reference part
    have hlen := rhs_length_le cfg.eq cfg.indelCost hwf.indel_pos s
    rw [hl, hr, seg_length, seg_length, encodeRef_length, encodeQuery_length, Nat.min_eq_left hae, hstop hsq,
      Nat.min_self] at hlen
    unfold minNOf
    rw [hsq, Bool.not_false, if_pos rfl]
    omega

/-- **minimality**: no alignment of the two reported intervals is cheaper than the reported number of errors -/
theorem locate_minimal (cfg : Cfg) (ref query : Bytes) (hwf : cfg.WF ref.length)
    {as ae rs re : Nat} {score : Int} {e : Nat}
    (h : locate cfg ref query = some (as, ae, rs, re, score, e)) :
    ∀ s, lhs s = seg (encodeRef cfg ref) as ae → rhs s = seg (encodeQuery cfg query) rs re →
      e ≤ cost cfg.eq cfg.indelCost s := by
  -- `e` is the cost of the DP cell `(ae, re)`, which is at most `D` there wherever `D ≤ k` (`finalBest_U`), and `D` is a
  -- lower bound for every script from an admissible start (`D_le_cost`); a cheaper script would put `D` below `e ≤ k`
  intro s hl hr
  apply Nat.le_of_not_lt
  intro hlt
  have hs := locate_sound cfg ref query hwf h
  have hk : e ≤ cfg.k := cost_le_k hwf (Nat.le_trans (Nat.sub_le _ _) hs.h_ae) hs.tolerance
  obtain ⟨s0, hl0, hr0, hc0⟩ := hs.script
  have hmin0 := start_ge_minN hwf hs.h_ae hs.stopQuery hl0 hr0 (Nat.le_trans hc0 hk)
  have hcase : minNOf cfg ref.length query.length = 0 ∨ cfg.startInQuery = true := by
    cases hq : cfg.startInQuery
    · exact .inl (Nat.le_zero.mp (hs.startQuery hq ▸ hmin0))
    · exact .inr rfl
  obtain ⟨hf, _, h2, _, h4, h6⟩ := locate_eq_some h
  obtain ⟨_, hU⟩ := finalBest_U (query := query) hwf hcase hf
  rw [← h2, ← h4, ← h6] at hU
  have hstart : RStart (mkCtx cfg ref query) (minNOf cfg ref.length query.length) as rs := by
    refine ⟨?_, ?_, hs.startOne, hmin0⟩
    · cases hsr : cfg.startInRef
      · exact .inl (hs.startRef hsr)
      · exact .inr hsr
    · cases hsq : cfg.startInQuery
      · exact .inl (hs.startQuery hsq)
      · exact .inr hsq
  have hD : D (mkCtx cfg ref query) (minNOf cfg ref.length query.length) ae
      (re - minNOf cfg ref.length query.length) ≤ cost cfg.eq cfg.indelCost s :=
    D_le_cost (ctx := mkCtx cfg ref query) hstart hs.h_as
      (by rw [mkCtx_ref_length]; exact hs.h_ae) hs.h_rs (by rw [mkCtx_query_length]; exact hs.h_re) hl hr
  have := hU (by show _ ≤ cfg.k; omega)
  omega

end Cutadapt.Align.Exact
