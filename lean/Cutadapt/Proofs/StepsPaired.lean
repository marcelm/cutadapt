import Cutadapt.Proofs.StepsFate
/-! Records per writer in a paired-end log: R1 and R2 stay in step. -/
namespace Cutadapt.Steps
open Cutadapt

/-- the R1 records writer `w` received, in order -/
def r1sOf (w : Nat) (evs : List Event) : List Read :=
  evs.filterMap fun
    | .write w' a _ => if w' = w then some a else none
    | _ => none

/-- the R2 records writer `w` received, in order -/
def r2sOf (w : Nat) (evs : List Event) : List Read :=
  evs.filterMap fun
    | .write w' _ (some b) => if w' = w then some b else none
    | _ => none

/-- the (R1, R2) pairs writer `w` received, in order -/
def pairsOf (w : Nat) (evs : List Event) : List (Read × Read) :=
  evs.filterMap fun
    | .write w' a (some b) => if w' = w then some (a, b) else none
    | _ => none

theorem pairsOf_append (w : Nat) (a b : List Event) : pairsOf w (a ++ b) = pairsOf w a ++ pairsOf w b := by
  simp [pairsOf, List.filterMap_append]

theorem pairsOf_flatten (w : Nat) (L : List (List Event)) : pairsOf w L.flatten = (L.map (pairsOf w)).flatten := by
  unfold pairsOf
  rw [List.filterMap_flatten]

theorem mates_in_step (w : Nat) (evs : List Event) (h : ∀ w' a b, Event.write w' a b ∈ evs → b.isSome = true) :
    r1sOf w evs = (pairsOf w evs).map (·.1) ∧ r2sOf w evs = (pairsOf w evs).map (·.2) := by
  simp only [r1sOf, r2sOf, pairsOf, List.map_filterMap]
  constructor <;> refine filterMap_congr_mem fun ev hev => ?_
  all_goals
    cases ev with
    | write w' a b =>
      obtain ⟨b, rfl⟩ := Option.isSome_iff_exists.1 (h w' a b hev)
      by_cases hw : w' = w <;> simp [hw]
    | _ => rfl

theorem pairsOf_length_le (w : Nat) (evs : List Event) : (pairsOf w evs).length ≤ evs.countP isWrite := by
  rw [pairsOf, List.length_filterMap_eq_countP]
  refine List.countP_mono_left fun ev _ h => ?_
  cases ev <;> first | rfl | cases h
end Cutadapt.Steps
