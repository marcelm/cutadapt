import Cutadapt.Proofs.ParserStr
import Cutadapt.Proofs.ParserDict
/-! `parse_search_parameters` on rendered parameter lists (C18): character classes, numbers, fields, the whole list,
    and what the written list `paramDict ps` holds. -/
namespace Cutadapt.ParserProofs
open Cutadapt.Parser Cutadapt.Notation

/-- characters that never act as a separator: not `;` `:` `=` `.`, not blank, ASCII -/
def plainChar (c : Char) : Bool :=
  c != ';' && c != ':' && c != '=' && c != '.' && !isSpace c && decide (c.toNat < 128)

/-- what the splitting steps of the parser need of a plain character -/
structure Plain (c : Char) : Prop where
  semi : c ≠ ';'
  colon : c ≠ ':'
  eq : c ≠ '='
  dot : c ≠ '.'
  space : isSpace c = false
  ascii : c.toNat < 128

theorem plain_ne {c : Char} (h : plainChar c = true) : Plain c := by
  simp only [plainChar, Bool.and_eq_true, bne_iff_ne, ne_eq, Bool.not_eq_true', decide_eq_true_eq] at h
  obtain ⟨⟨⟨⟨⟨h1, h2⟩, h3⟩, h4⟩, h5⟩, h6⟩ := h
  exact ⟨h1, h2, h3, h4, h5, h6⟩

theorem digitChar_plain : ∀ d, d < 10 → plainChar (digitChar d) = true := by decide +kernel

theorem natDigits_plain (n : Nat) : ∀ c ∈ natDigits n, plainChar c = true := natDigits_forall digitChar_plain n

theorem fracChars_plain (frac : List (Fin 10)) : ∀ c ∈ fracChars frac, plainChar c = true := fracChars_forall digitChar_plain frac

theorem name_plain : ∀ c ∈ nameChars, plainChar c = true := by decide +kernel

theorem pname_plain (n : PName) : ∀ c ∈ n.render, plainChar c = true := by cases n <;> decide +kernel

/-- a property of characters that holds of the plain ones and of the `=` and `.` inside a rendered parameter -/
structure Textual (P : Char → Prop) : Prop where
  plain : ∀ c, plainChar c = true → P c
  eq : P '='
  dot : P '.'

theorem textual_space : Textual (fun c => isSpace c = false) := ⟨fun _ h => (plain_ne h).space, by decide, by decide⟩
theorem textual_semi : Textual (· ≠ ';') := ⟨fun _ h => (plain_ne h).semi, by decide, by decide⟩
theorem textual_colon : Textual (· ≠ ':') := ⟨fun _ h => (plain_ne h).colon, by decide, by decide⟩
theorem textual_ascii : Textual (fun c => c.toNat < 128) := ⟨fun _ h => (plain_ne h).ascii, by decide, by decide⟩

theorem pyNumber_render (l : NumLit) : pyNumber l.render = .ok l.value := by
  cases l with
  | int n =>
    simp [NumLit.render, NumLit.value, pyNumber, natDigits_ne_nil, natDigits_all_digit, parseDigits_natDigits]
  | dec ip frac =>
    have hdot : ¬ isDigit '.' = true := by decide
    have hnot : ¬ ((natDigits ip ++ '.' :: fracChars frac) ≠ [] ∧ (natDigits ip ++ '.' :: fracChars frac).all isDigit = true) :=
      fun h => hdot (List.all_eq_true.mp h.2 '.' (by simp))
    simp only [NumLit.render, NumLit.value, pyNumber]
    simp only [hnot, if_false, List.takeWhile_append_of_pos (natDigits_isDigit ip), List.dropWhile_append_of_pos (natDigits_isDigit ip),
      List.takeWhile_cons_of_neg hdot, List.dropWhile_cons_of_neg hdot, List.append_nil]
    simp only [fracChars_all_digit, natDigits_ne_nil, ne_eq, not_false_eq_true, true_or, and_self, if_true]
    rw [parseDigits_append, parseDigits_natDigits, foldl_fracChars]
    simp [fracChars]

theorem numlit_forall {P : Char → Prop} (hP : Textual P) {l : NumLit} : ∀ c ∈ l.render, P c := by
  intro c hc
  cases l with
  | int n => exact hP.plain c (natDigits_plain n c hc)
  | dec ip frac =>
    simp only [NumLit.render, List.mem_append, List.mem_cons] at hc
    rcases hc with hc | rfl | hc
    · exact hP.plain c (natDigits_plain ip c hc)
    · exact hP.dot
    · exact hP.plain c (fracChars_plain frac c hc)

theorem numlit_ne_nil (l : NumLit) : l.render ≠ [] := by
  cases l <;> simp [NumLit.render, natDigits_ne_nil]

theorem param_forall {P : Char → Prop} (hP : Textual P) (p : Param) : ∀ c ∈ p.render, P c := by
  intro c hc
  simp only [Param.render, List.mem_append] at hc
  rcases hc with hc | hc
  · exact hP.plain c (pname_plain _ c hc)
  · cases hv : p.value with
    | none => simp [hv] at hc
    | some v =>
      simp only [hv, List.mem_cons] at hc
      rcases hc with rfl | hc
      · exact hP.eq
      · exact numlit_forall hP c hc

theorem pname_ne_nil (n : PName) : n.render ≠ [] := by cases n <;> simp [PName.render]

theorem pname_no_eq (n : PName) : '=' ∉ n.render := fun h => (plain_ne (pname_plain n _ h)).eq rfl

theorem keyOfName_render (n : PName) : keyOfName (strip n.render) = some n.key := by
  cases n <;> decide +kernel

theorem parseField_render (acc : Params) (p : Param) :
    parseField acc p.render = if acc.has p.name.key then .error .duplicateKey else .ok (acc ++ [(p.name.key, p.val)]) := by
  have hstrip : strip p.render = p.render := strip_noSpace (param_forall textual_space p)
  have hne : p.render ≠ [] := by simp [Param.render, pname_ne_nil]
  unfold parseField
  simp only [hstrip, hne, if_false]
  cases hv : p.value with
  | none =>
    have hr : p.render = p.name.render := by simp [Param.render, hv]
    rw [hr, partition1_notin (pname_no_eq _)]
    simp only [keyOfName_render, Bool.false_eq_true, false_and, if_false]
    have : strip ([] : Str) = [] := rfl
    simp [this, Param.val, hv]
  | some v =>
    have hr : p.render = p.name.render ++ '=' :: v.render := by simp [Param.render, hv]
    rw [hr, partition1_app _ (pname_no_eq _)]
    simp only [keyOfName_render, numlit_ne_nil, and_false, if_false]
    have hs : strip v.render = v.render := strip_noSpace (numlit_forall textual_space)
    simp [hs, numlit_ne_nil, pyNumber_render, Param.val, hv]

/-- the dict that the loop builds: parameters in order, a repeated key is an error -/
def foldDict (acc : Params) : List Param → Except Err Params
  | [] => .ok acc
  | p :: ps => if acc.has p.name.key then .error .duplicateKey else foldDict (acc ++ [(p.name.key, p.val)]) ps

theorem parseFields_render (acc : Params) (ps : List Param) :
    parseFields acc (ps.map Param.render) = foldDict acc ps := by
  induction ps generalizing acc with
  | nil => rfl
  | cons p ps ih =>
    simp only [List.map_cons, parseFields, parseField_render, foldDict]
    by_cases h : acc.has p.name.key = true <;> simp [h, ih]

theorem foldDict_eq (acc : Params) (ps : List Param) :
    foldDict acc ps =
      if (∀ p ∈ ps, acc.has p.name.key = false) ∧ (ps.map (fun p => p.name.key)).Nodup then .ok (acc ++ paramDict ps)
      else .error .duplicateKey := by
  induction ps generalizing acc with
  | nil => simp [foldDict, paramDict]
  | cons p ps ih =>
    simp only [foldDict, ih, Params.has_append, Params.has_singleton, List.mem_cons, forall_eq_or_imp, List.map_cons, List.nodup_cons,
      List.mem_map, Bool.or_eq_false_iff, decide_eq_false_iff_not]
    cases acc.has p.name.key
    · simp only [Bool.false_eq_true, if_false, true_and, paramDict, List.map_cons, List.append_assoc, List.singleton_append]
      congr 1
      refine propext ⟨?_, ?_⟩
      · rintro ⟨h1, h2⟩; exact ⟨fun q hq => (h1 q hq).1, fun ⟨q, hq, e⟩ => (h1 q hq).2 e.symm, h2⟩
      · rintro ⟨h1, h2, h3⟩; exact ⟨fun q hq => ⟨h1 q hq, fun e => h2 ⟨q, hq, e.symm⟩⟩, h3⟩
    · simp

/-- the string after the first `;` of a rendered parameter list -/
def paramsTail (ps : List Param) : Str := (renderParams ps).drop 1

theorem param_no_semi (p : Param) : ';' ∉ p.render := fun h => param_forall textual_semi p _ h rfl

theorem params_forall {P : Char → Prop} (hP : Textual P) (hsemi : P ';') (ps : List Param) : ∀ c ∈ renderParams ps, P c := by
  intro c hc
  simp only [renderParams, List.mem_flatMap, List.mem_cons] at hc
  obtain ⟨q, _, rfl | hc⟩ := hc
  · exact hsemi
  · exact param_forall hP q c hc

theorem renderParams_cons (p : Param) (ps : List Param) : renderParams (p :: ps) = ';' :: (p.render ++ renderParams ps) := by
  simp [renderParams]

theorem splitOn1_params (p : Param) (ps : List Param) :
    splitOn1 ';' (p.render ++ renderParams ps) = (p :: ps).map Param.render := by
  induction ps generalizing p with
  | nil => simp [renderParams, splitOn1_notin (param_no_semi p)]
  | cons q qs ih =>
    rw [renderParams_cons, splitOn1_app _ (param_no_semi p), ih q]
    simp

theorem partition_params {h : Str} (hh : ';' ∉ h) (ps : List Param) :
    partition1 ';' (h ++ renderParams ps) = (h, !ps.isEmpty, paramsTail ps) := by
  cases ps with
  | nil => simp [renderParams, partition1_notin hh, paramsTail]
  | cons q qs =>
    rw [renderParams_cons, partition1_app _ hh]
    simp [paramsTail, renderParams_cons]

theorem parseFields_tail (ps : List Param) : parseFields [] (splitOn1 ';' (paramsTail ps)) = foldDict [] ps := by
  cases ps with
  | nil => rfl
  | cons p ps =>
    simp only [paramsTail, renderParams_cons, List.drop_succ_cons, List.drop_zero]
    rw [splitOn1_params, parseFields_render]

/-- **Round trip of parameter lists**: a rendered list without repeated keys parses into the written (canonical name, value)
    pairs, to which the `optional`/`noindels` rewriting (`postParams`) is applied; a repeated key is a `KeyError`. -/
theorem parseParams_tail (ps : List Param) :
    parseParams (paramsTail ps) =
      if (ps.map (fun p => p.name.key)).Nodup then postParams (paramDict ps) else .error .duplicateKey := by
  unfold parseParams
  rw [parseFields_tail, foldDict_eq]
  by_cases h : (ps.map (fun p => p.name.key)).Nodup <;> simp [h, Params.has, Params.get]

theorem paramDict_keys (ps : List Param) : (paramDict ps).map (·.1) = ps.map (fun p => p.name.key) := by
  simp [paramDict]

theorem paramDict_get_some {ps : List Param} {k : Key} {v : Value} (h : Params.get (paramDict ps) k = some v) :
    ∃ q ∈ ps, q.name.key = k ∧ q.val = v := by
  obtain ⟨q, hq, hkv⟩ := List.mem_map.mp (get_mem h)
  exact ⟨q, hq, (Prod.mk.inj hkv).1, (Prod.mk.inj hkv).2⟩

theorem paramDict_get_none (ps : List Param) (k : Key) (hk : ∀ q ∈ ps, q.name.key ≠ k) : Params.get (paramDict ps) k = none := by
  cases h : Params.get (paramDict ps) k with
  | none => rfl
  | some v =>
    obtain ⟨q, hq, hqk, _⟩ := paramDict_get_some h
    exact absurd hqk (hk q hq)

theorem paramDict_get_global (ps : List Param) {k : Key} (hk : k = .readWildcards ∨ k = .adapterWildcards ∨ k = .forceAnywhere) :
    Params.get (paramDict ps) k = none :=
  paramDict_get_none ps k (fun q _ => by rcases hk with rfl | rfl | rfl <;> cases q.name <;> decide)

/-- `Param.WF` by the key the name stands for -/
theorem Param.WF_key {q : Param} (hw : q.WF) :
    match q.name.key with
    | .maxErrors => ∃ l, q.value = some l ∧ l.WF
    | .minOverlap => ∃ n, q.value = some (.int n)
    | _ => q.value = none := by
  unfold Param.WF at hw
  cases hn : q.name <;> rw [hn] at hw <;> exact hw

theorem Param.WF_value {q : Param} (hw : q.WF) {v : NumLit} (hv : q.value = some v) : v.WF := by
  have h := Param.WF_key hw
  split at h
  · obtain ⟨l, hl, hl'⟩ := h; cases hv.symm.trans hl; exact hl'
  · obtain ⟨n, hn⟩ := h; cases hv.symm.trans hn; trivial
  · cases hv.symm.trans h

/-- `o`/`min_overlap` carry an integer -/
theorem paramDict_o_int {ps : List Param} (hwf : ∀ q ∈ ps, q.WF) {v : Value} (h : Params.get (paramDict ps) .minOverlap = some v) :
    v.isFloat = false := by
  obtain ⟨q, hq, hk, rfl⟩ := paramDict_get_some h
  have hw := Param.WF_key (hwf q hq)
  rw [hk] at hw
  obtain ⟨n, hv⟩ := hw
  simp [Param.val, hv, NumLit.value, Value.isFloat]

/-- flags carry no value: they are `True` -/
theorem paramDict_flag {ps : List Param} (hwf : ∀ q ∈ ps, q.WF) {k : Key} (hk : k = .anywhere ∨ k = .rightmost ∨ k = .required)
    {v : Value} (h : Params.get (paramDict ps) k = some v) : v = .bool true := by
  obtain ⟨q, hq, hqk, rfl⟩ := paramDict_get_some h
  have hw := Param.WF_key (hwf q hq)
  rcases hk with rfl | rfl | rfl <;> (rw [hqk] at hw; simp [Param.val, show q.value = none from hw])

/-- what `paramSem` reads off the written dict agrees with the lookups after `postParams` -/
theorem paramSem_o (ps : List Param) : (paramSem ps).o = postGet (paramDict ps) .minOverlap := rfl
theorem paramSem_required (ps : List Param) : (paramSem ps).required = postGet (paramDict ps) .required := rfl

theorem consistent_iff (ps : List Param) :
    paramsConsistent ps = true ↔ (ps.map (fun q => q.name.key)).Nodup ∧
      ¬ ((paramDict ps).has .optional = true ∧ (paramDict ps).has .required = true) ∧
      ¬ ((paramDict ps).has .indels = true ∧ (paramDict ps).has .noindels = true) := by
  simp only [paramsConsistent, Bool.and_eq_true, decide_eq_true_eq, Bool.not_eq_true', Bool.and_eq_false_iff, and_assoc,
    Decidable.not_and_iff_not_or_not, Bool.not_eq_true]

/-- **A consistent parameter list** is read back as written, up to the `optional`/`noindels` rewriting. -/
theorem parseParams_ok {ps : List Param} (hc : paramsConsistent ps = true) :
    ∃ P, parseParams (paramsTail ps) = .ok P ∧ ∀ k, Params.get P k = postGet (paramDict ps) k := by
  obtain ⟨hnd, h1, h2⟩ := (consistent_iff ps).mp hc
  rw [parseParams_tail, if_pos hnd]
  exact postParams_ok _ h1 h2

/-- **An inconsistent parameter list** is rejected. -/
theorem parseParams_err {ps : List Param} (hc : paramsConsistent ps = false) :
    ∃ e, parseParams (paramsTail ps) = .error e ∧ e.isCmdline = true := by
  rw [parseParams_tail]
  by_cases hnd : (ps.map (fun q => q.name.key)).Nodup
  · rw [if_pos hnd]
    apply postParams_err
    refine Decidable.by_contra fun h => ?_
    rw [not_or] at h
    exact Bool.false_ne_true (hc ▸ (consistent_iff ps).mpr ⟨hnd, h⟩)
  · exact ⟨.duplicateKey, by rw [if_neg hnd], rfl⟩

end Cutadapt.ParserProofs
