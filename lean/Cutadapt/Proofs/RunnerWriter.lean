import Cutadapt.Runner
/-! `OrderedChunkWriter`: the invariant `WInv` and its preservation by `write` (used by C06 and C12). -/
namespace Cutadapt.Runner

theorem lookup_remove (p : List (Nat × Bytes)) (c i : Nat) :
    lookup (remove p c) i = if i = c then none else lookup p i := by
  induction p with
  | nil => simp [remove, lookup]
  | cons e r ih =>
    obtain ⟨k, d⟩ := e
    unfold remove at ih ⊢
    by_cases hk : k = c
    · subst hk
      simp only [List.filter_cons, bne_self_eq_false, Bool.false_eq_true, if_false, ih, lookup]
      by_cases hi : i = k
      · simp [hi]
      · have : ¬ k = i := fun h => hi h.symm
        simp [hi, this]
    · have hb : ((k, d).1 != c) = true := by simp [hk]
      simp only [List.filter_cons, hb, if_true, lookup, ih]
      by_cases hi : i = c
      · subst hi; simp [hk]
      · simp [hi]

theorem lookup_insert (p : List (Nat × Bytes)) (i j : Nat) (x : Bytes) :
    lookup (insert p i x) j = if j = i then some x else lookup p j := by
  unfold insert
  simp only [lookup, lookup_remove]
  by_cases h : j = i
  · simp [h]
  · have : ¬ i = j := fun e => h e.symm
    simp [h, this]

theorem mem_of_lookup {p : List (Nat × Bytes)} {c : Nat} {d : Bytes} (h : lookup p c = some d) : (c, d) ∈ p := by
  induction p with
  | nil => cases h
  | cons e r ih =>
    obtain ⟨k, x⟩ := e
    simp only [lookup] at h
    split at h
    · rename_i hk; cases h; subst hk; exact List.mem_cons_self
    · exact List.mem_cons_of_mem _ (ih h)

/-- Invariant of one writer w.r.t. the chunk data `data` and the set `S` of indices it has been given:
    everything below `current` has arrived and has been written in order, exactly the arrived indices `≥ current`
    are pending, and `current` itself has not arrived (the `while` loop has run to completion). -/
structure WInv (data : Nat → Bytes) (w : Writer) (S : Nat → Prop) : Prop where
  written : w.written = concatRange data w.current
  pending : ∀ i d, lookup w.pending i = some d ↔ (S i ∧ w.current ≤ i ∧ d = data i)
  below : ∀ i, i < w.current → S i
  flushed : ¬ S w.current

/-- the same before the `while` loop -/
structure WPre (data : Nat → Bytes) (w : Writer) (S : Nat → Prop) : Prop where
  written : w.written = concatRange data w.current
  pending : ∀ i d, lookup w.pending i = some d ↔ (S i ∧ w.current ≤ i ∧ d = data i)
  below : ∀ i, i < w.current → S i

theorem WInv.congr {data w S S'} (h : WInv data w S) (e : ∀ i, S i ↔ S' i) : WInv data w S' :=
  ⟨h.written, fun i d => by rw [h.pending, e], fun i hi => (e i).mp (h.below i hi), fun hc => h.flushed ((e _).mpr hc)⟩

theorem WInv.init (data : Nat → Bytes) : WInv data {} (fun _ => False) :=
  ⟨rfl, fun i d => by simp [lookup], fun i hi => by simp at hi, fun h => h⟩

/-- the loop stops when `current` is not pending -/
theorem WPre.toWInv {data : Nat → Bytes} {w : Writer} {S : Nat → Prop} (h : WPre data w S)
    (hn : lookup w.pending w.current = none) : WInv data w S :=
  ⟨h.written, h.pending, h.below, fun hc => by
    have := (h.pending w.current (data w.current)).mpr ⟨hc, Nat.le_refl _, rfl⟩
    rw [hn] at this; cases this⟩

/-- one iteration of the loop -/
theorem WPre.advance {data : Nat → Bytes} {w : Writer} {S : Nat → Prop} {d : Bytes} (h : WPre data w S)
    (hlk : lookup w.pending w.current = some d) :
    WPre data { pending := remove w.pending w.current, current := w.current + 1, written := w.written ++ d } S := by
  have ⟨hS, _, hd⟩ := (h.pending w.current d).mp hlk
  refine ⟨?_, ?_, ?_⟩
  · simp only [concatRange, h.written, hd]
  · intro i x
    simp only [lookup_remove]
    by_cases hi : i = w.current
    · subst hi
      simp only [if_true]
      constructor
      · intro e; cases e
      · rintro ⟨_, b, _⟩; omega
    · simp only [hi, if_false, h.pending]
      constructor
      · rintro ⟨a, b, c⟩; exact ⟨a, Nat.lt_of_le_of_ne b (Ne.symm hi), c⟩
      · rintro ⟨a, b, c⟩; exact ⟨a, Nat.le_of_succ_le b, c⟩
  · intro i hi
    by_cases he : i = w.current
    · subst he; exact hS
    · exact h.below i (Nat.lt_of_le_of_ne (Nat.le_of_lt_succ hi) he)

theorem flush_spec (data : Nat → Bytes) (S : Nat → Prop) :
    ∀ (fuel : Nat) (w : Writer), WPre data w S → w.pending.length ≤ fuel → WInv data (Writer.flush fuel w) S
  | 0, w, h, hl => h.toWInv (by rw [List.length_eq_zero_iff.mp (Nat.le_zero.mp hl)]; rfl)
  | fuel + 1, w, h, hl => by
    unfold Writer.flush
    cases hlk : lookup w.pending w.current with
    | none => exact h.toWInv hlk
    | some d =>
      have : (remove w.pending w.current).length < w.pending.length :=
        List.length_filter_lt_length_iff_exists.mpr ⟨(_, d), mem_of_lookup hlk, by simp⟩
      exact flush_spec data S fuel _ (h.advance hlk) (Nat.le_of_lt_succ (Nat.lt_of_lt_of_le this hl))

/-- `write(data i, i)` for an index that has not arrived yet -/
theorem write_spec {data : Nat → Bytes} {w : Writer} {S : Nat → Prop} (h : WInv data w S) (i : Nat) (hi : ¬ S i) :
    WInv data (w.write (data i) i) (fun j => j = i ∨ S j) := by
  unfold Writer.write
  apply flush_spec
  · have hci : w.current ≤ i := by
      rcases Nat.lt_or_ge i w.current with hlt | hge
      · exact absurd (h.below i hlt) hi
      · exact hge
    refine ⟨h.written, ?_, ?_⟩
    · intro j d
      simp only [lookup_insert]
      by_cases hj : j = i
      · subst hj
        simp only [if_true, true_or, true_and]
        constructor
        · intro e; cases e; exact ⟨hci, rfl⟩
        · rintro ⟨_, e⟩; rw [e]
      · simp only [hj, if_false, false_or]
        exact h.pending j d
    · intro j hj; exact Or.inr (h.below j hj)
  · exact Nat.le_refl _

/-- the position of a writer is determined by the set of arrived indices: the least index that has not arrived -/
theorem WInv.current_unique {data data' : Nat → Bytes} {w w' : Writer} {S : Nat → Prop}
    (h : WInv data w S) (h' : WInv data' w' S) : w.current = w'.current := by
  rcases Nat.lt_trichotomy w.current w'.current with hlt | heq | hgt
  · exact absurd (h'.below _ hlt) h.flushed
  · exact heq
  · exact absurd (h.below _ hgt) h'.flushed

/-- when exactly the indices below `N` have arrived, everything has been written and nothing is pending -/
theorem WInv.complete {data : Nat → Bytes} {w : Writer} {S : Nat → Prop} {N : Nat} (h : WInv data w S)
    (hS : ∀ i, S i ↔ i < N) : w.current = N ∧ w.pending = [] ∧ w.written = concatRange data N := by
  have hc : w.current = N := by
    rcases Nat.lt_trichotomy w.current N with hlt | heq | hgt
    · exact absurd ((hS _).mpr hlt) h.flushed
    · exact heq
    · have := (hS N).mp (h.below N hgt); omega
  refine ⟨hc, ?_, by rw [h.written, hc]⟩
  cases hp : w.pending with
  | nil => rfl
  | cons e r =>
    obtain ⟨k, d⟩ := e
    have hl : lookup w.pending k = some d := by rw [hp]; simp [lookup]
    have ⟨a, b, _⟩ := (h.pending k d).mp hl
    have := (hS k).mp a
    omega

/-- feed a writer the pairs `(data i, i)` for `i` in `feed`, in that order -/
def feedAll (data : Nat → Bytes) (feed : List Nat) (w : Writer := {}) : Writer :=
  feed.foldl (fun w i => w.write (data i) i) w

theorem feedAll_inv (data : Nat → Bytes) :
    ∀ (feed : List Nat) (w : Writer) (S : Nat → Prop), WInv data w S → feed.Nodup → (∀ i, i ∈ feed → ¬ S i) →
      WInv data (feedAll data feed w) (fun j => j ∈ feed ∨ S j) := by
  intro feed
  induction feed with
  | nil => intro w S h _ _; exact h.congr (fun i => by simp)
  | cons a feed ih =>
    intro w S h hnd hS
    have hnd' := List.nodup_cons.mp hnd
    have h1 := write_spec h a (hS a (by simp))
    have h2 := ih (w.write (data a) a) _ h1 hnd'.2 (by
      intro i hi hc
      rcases hc with hc | hc
      · subst hc; exact hnd'.1 hi
      · exact hS i (by simp [hi]) hc)
    unfold feedAll at h2 ⊢
    simp only [List.foldl_cons]
    exact h2.congr (fun i => by rw [List.mem_cons, or_assoc, or_left_comm])

end Cutadapt.Runner
