import Cutadapt.Proofs.ParserBraces
import Cutadapt.Proofs.ParserParams
/-! `AdapterSpecification.parse` on a rendered part (C18): name, parameters, braces, restrictions. -/
namespace Cutadapt.ParserProofs
open Cutadapt.Parser Cutadapt.Notation

/-- the restriction characters as runs without a repeat count, so that the whole core of a part is one `renderRuns`
    and brace expansion passes over them -/
def Restr.preRuns : Restr → List Run
  | .caret => [⟨'^', none⟩]
  | .xLeft => [⟨'X', none⟩]
  | _ => []
def Restr.sufRuns : Restr → List Run
  | .dollar => [⟨'$', none⟩]
  | .xRight => [⟨'X', none⟩]
  | _ => []

/-- the part between `name=` and `;` -/
def partCore (p : Part) : Str := p.restr.pre ++ renderRuns p.runs ++ p.restr.suf

theorem renderRuns_append (a b : List Run) : renderRuns (a ++ b) = renderRuns a ++ renderRuns b := by
  simp [renderRuns]
theorem expandRuns_append (a b : List Run) : expandRuns (a ++ b) = expandRuns a ++ expandRuns b := by
  simp [expandRuns]

theorem core_eq_runs (p : Part) : partCore p = renderRuns (Restr.preRuns p.restr ++ p.runs ++ Restr.sufRuns p.restr) := by
  simp only [partCore, renderRuns_append]
  cases p.restr <;> rfl

theorem expand_allRuns (p : Part) :
    expandRuns (Restr.preRuns p.restr ++ p.runs ++ Restr.sufRuns p.restr) = p.restr.pre ++ expandRuns p.runs ++ p.restr.suf := by
  simp only [expandRuns_append]
  cases p.restr <;> rfl

/-- what the parser needs of a sequence character -/
structure SeqChar (c : Char) : Prop where
  plain : plainChar c = true
  caret : c ≠ '^'
  dollar : c ≠ '$'
  lbrace : c ≠ '{'
  rbrace : c ≠ '}'
  iupac : isIupac (normChar c) = true

theorem seqChars_spec : ∀ c ∈ seqChars, SeqChar c := by
  have h : ∀ c ∈ seqChars,
      plainChar c = true ∧ c ≠ '^' ∧ c ≠ '$' ∧ c ≠ '{' ∧ c ≠ '}' ∧ isIupac (normChar c) = true := by decide +kernel
  intro c hc
  obtain ⟨h1, h2, h3, h4, h5, h6⟩ := h c hc
  exact ⟨h1, h2, h3, h4, h5, h6⟩

theorem run_chars {r : Run} (hr : r.WF) : ∀ c ∈ r.render, plainChar c = true := by
  intro c hc
  simp only [Run.render, List.mem_cons] at hc
  rcases hc with rfl | hc
  · exact (seqChars_spec _ hr.1).plain
  · cases hrep : r.rep with
    | none => simp [hrep] at hc
    | some n =>
      simp only [hrep, List.mem_cons, List.mem_append] at hc
      rcases hc with (rfl | hc) | hc
      · decide
      · exact natDigits_plain n c hc
      · simp at hc; subst hc; decide

theorem runs_chars {rs : List Run} (hrs : ∀ r ∈ rs, r.WF) : ∀ c ∈ renderRuns rs, plainChar c = true := by
  intro c hc
  simp only [renderRuns, List.mem_flatMap] at hc
  obtain ⟨r, hr, hc⟩ := hc
  exact run_chars (hrs r hr) c hc

theorem core_chars {p : Part} (hp : p.WF) : ∀ c ∈ partCore p, plainChar c = true := by
  intro c hc
  simp only [partCore, List.mem_append] at hc
  rcases hc with (hc | hc) | hc
  · cases hr : p.restr <;> simp [hr, Restr.pre] at hc <;> subst hc <;> decide
  · exact runs_chars hp.2.1 c hc
  · cases hr : p.restr <;> simp [hr, Restr.suf] at hc <;> subst hc <;> decide

theorem head_eq (p : Part) : p.renderHead = renderName p.name ++ partCore p := by
  simp [Part.renderHead, partCore]

theorem head_forall {P : Char → Prop} (hplain : ∀ c, plainChar c = true → P c) (heq : P '=') {p : Part} (hp : p.WF) :
    ∀ c ∈ p.renderHead, P c := by
  intro c hc
  rw [head_eq, List.mem_append] at hc
  rcases hc with hc | hc
  · cases hn : p.name with
    | none => simp [hn, renderName] at hc
    | some n =>
      simp only [hn, renderName, List.mem_append, List.mem_singleton] at hc
      rcases hc with hc | rfl
      · exact hplain c (name_plain _ (hp.1 n hn c hc))
      · exact heq
  · exact hplain c (core_chars hp c hc)

theorem extractName_head {p : Part} (hp : p.WF) : extractName p.renderHead = (p.name, partCore p) := by
  have hcore_eq : '=' ∉ partCore p := fun h => (plain_ne (core_chars hp _ h)).eq rfl
  have hcore_sp : strip (partCore p) = partCore p := strip_noSpace (fun c hc => (plain_ne (core_chars hp c hc)).space)
  rw [head_eq]
  unfold extractName
  cases hn : p.name with
  | none =>
    simp only [renderName, List.nil_append]
    simp [partition1_notin hcore_eq, hcore_sp]
  | some n =>
    have hn_eq : '=' ∉ n := fun h => (plain_ne (name_plain _ (hp.1 n hn _ h))).eq rfl
    have hn_sp : strip n = n := strip_noSpace (fun c hc => (plain_ne (name_plain _ (hp.1 n hn c hc))).space)
    simp only [renderName, List.append_assoc, List.singleton_append]
    simp [partition1_app _ hn_eq, hcore_sp, hn_sp]

theorem partition_semi {p : Part} (hp : p.WF) :
    (partition1 ';' p.render).1 = p.renderHead ∧ (partition1 ';' p.render).2.2 = paramsTail p.params := by
  rw [Part.render, partition_params (fun h => head_forall textual_semi.plain textual_semi.eq hp _ h rfl)]
  exact ⟨rfl, rfl⟩

theorem runs_braces_ok {p : Part} (hp : p.WF) :
    ∀ r ∈ Restr.preRuns p.restr ++ p.runs ++ Restr.sufRuns p.restr, r.c ≠ '{' ∧ r.c ≠ '}' ∧ ∀ n, r.rep = some n → n ≤ 10000 := by
  intro r hr
  simp only [List.mem_append] at hr
  rcases hr with (hr | hr) | hr
  · cases hre : p.restr <;> simp [hre, Restr.preRuns] at hr <;> subst hr <;> simp
  · have h := seqChars_spec _ (hp.2.1 r hr).1
    exact ⟨h.lbrace, h.rbrace, (hp.2.1 r hr).2⟩
  · cases hre : p.restr <;> simp [hre, Restr.sufRuns] at hr <;> subst hr <;> simp

/-- **String level of `AdapterSpecification.parse`** on a rendered part: the name is split off, the parameters are parsed,
    braces are expanded; what remains is `aspecCore` on abstract data. -/
theorem parseASpec_render {p : Part} (hp : p.WF) (t : AType) :
    parseASpec p.render t =
      match parseParams (paramsTail p.params) with
      | .error e => .error e
      | .ok P => aspecCore p.name (p.restr.pre ++ expandRuns p.runs ++ p.restr.suf) P t := by
  unfold parseASpec
  simp only [(partition_semi hp).1, (partition_semi hp).2, extractName_head hp]
  cases parseParams (paramsTail p.params) with
  | error e => rfl
  | ok P => simp only [core_eq_runs, expandBraces_renderRuns _ (runs_braces_ok hp), expand_allRuns]

/-- the `front_restriction` and `back_restriction` that `_parse_restrictions` returns for a part written with `r` -/
def Restr.front : Restr → Option Restriction
  | .caret => some .anchored
  | .xLeft => some .noninternal
  | _ => none
def Restr.back : Restr → Option Restriction
  | .dollar => some .anchored
  | .xRight => some .noninternal
  | _ => none

/-- how a restriction is written at one end, read from that end: nothing, the anchor character, or `X` -/
def mark (anchor : Char) : Option Restriction → Str
  | none => []
  | some .anchored => [anchor]
  | some .noninternal => ['X']

theorem restrictEnd_mark {anchor : Char} (ha : anchor ≠ 'X') (m : Option Restriction) {c : Char} (tl : Str)
    (h1 : c ≠ anchor) (h2 : isX c = false) : restrictEnd anchor (mark anchor m ++ c :: tl) = some (m, c :: tl) := by
  have hX : isX 'X' = true := by decide
  rcases m with _ | _ | _ <;> simp [mark, restrictEnd, h1, h2, Ne.symm ha, hX, List.dropWhile]

theorem edge_head {sq : Str} (h : edgeOK sq) : ∃ c tl, sq = c :: tl ∧ isX c = false := by
  obtain ⟨h1, h2, _⟩ := h
  cases sq with
  | nil => exact absurd rfl h1
  | cons c tl => exact ⟨c, tl, rfl, h2 c rfl⟩

theorem edge_last {sq : Str} (h : edgeOK sq) : ∃ c tl, sq.reverse = c :: tl ∧ isX c = false := by
  obtain ⟨h1, _, h3⟩ := h
  cases hr : sq.reverse with
  | nil => exact absurd (List.reverse_eq_nil_iff.mp hr) h1
  | cons c tl => exact ⟨c, tl, rfl, h3 c (by rw [← List.head?_reverse, hr]; rfl)⟩

/-- **Restrictions round trip**: `^`, `$`, a leading or trailing `X` around a sequence that does not itself begin or end
    with `X` are recognised and removed. -/
theorem parseRestrictions_render (r : Restr) {sq : Str} (h : edgeOK sq) (hc : ∀ c ∈ sq, c ≠ '^' ∧ c ≠ '$') :
    parseRestrictions (r.pre ++ sq ++ r.suf) = some (Restr.front r, Restr.back r, sq) := by
  obtain ⟨c, tl, hsq, hx⟩ := edge_head h
  obtain ⟨d, tl', hrev, hxd⟩ := edge_last h
  have hd : d ∈ sq := List.mem_reverse.mp (hrev ▸ List.mem_cons_self)
  have hpre : r.pre = mark '^' (Restr.front r) := by cases r <;> rfl
  have hsuf : r.suf.reverse = mark '$' (Restr.back r) := by cases r <;> rfl
  have hone : ¬ ((Restr.front r).isSome = true ∧ (Restr.back r).isSome = true) := by cases r <;> simp [Restr.front, Restr.back]
  unfold parseRestrictions
  rw [List.append_assoc, hpre, hsq, List.cons_append, restrictEnd_mark (by decide) _ _ (hc c (by simp [hsq])).1 hx]
  simp only
  rw [← List.cons_append, ← hsq, List.reverse_append, hsuf, hrev, restrictEnd_mark (by decide) _ _ (hc d hd).2 hxd]
  simp [hone, ← hrev]

theorem mem_expandRuns {rs : List Run} {c : Char} (h : c ∈ expandRuns rs) : ∃ r ∈ rs, c = r.c := by
  simp only [expandRuns, List.mem_flatMap] at h
  obtain ⟨r, hr, hc⟩ := h
  refine ⟨r, hr, ?_⟩
  unfold Run.expand at hc
  cases hrep : r.rep with
  | none => simpa [hrep] using hc
  | some n => simp [hrep] at hc; exact hc.2

theorem expand_seqChars {p : Part} (hp : p.WF) : ∀ c ∈ expandRuns p.runs, c ∈ seqChars := by
  intro c hc
  obtain ⟨r, hr, rfl⟩ := mem_expandRuns hc
  exact (hp.2.1 r hr).1

end Cutadapt.ParserProofs
