import Cutadapt.Proofs.IndexEnv
import Cutadapt.Proofs.IndexLookup
import Cutadapt.Proofs.IndexLengths
/-! Equally long adapters without indels: the index reports the admissible adapter that is strictly nearest to the
    read's affix (ties between worse candidates do not matter any more: the mark is cleared by a better offer). -/
namespace Cutadapt.Index
open Cutadapt Cutadapt.Adapters

theorem length_le_one_of_pairwise {α : Type} {R : α → α → Prop} {l : List α} (h : l.Pairwise R)
    (hR : ∀ x ∈ l, ∀ y ∈ l, ¬ R x y) : l.length ≤ 1 := by
  cases l with
  | nil => exact Nat.zero_le _
  | cons x l => cases l with
    | nil => exact Nat.le_refl _
    | cons y l =>
      exact absurd ((List.pairwise_cons.mp h).1 y List.mem_cons_self)
        (hR x List.mem_cons_self y (List.mem_cons_of_mem _ List.mem_cons_self))

theorem items_keys_pairwise (a : Adapter) (ha : ∀ c ∈ a.seq, c ∈ acgt) :
    (adapterItems a).Pairwise (fun x y => x.1 ≠ y.1) := by
  unfold adapterItems
  cases hi : a.indels
  · simp only [Bool.false_eq_true, if_false]
    rw [List.pairwise_flatMap]
    constructor
    · intro e _
      rw [List.pairwise_map]
      exact hammingSphere_nodup a.seq e
    · refine List.Pairwise.imp ?_ List.pairwise_lt_range
      intro e1 e2 hlt x hx y hy
      simp only [List.mem_map] at hx hy
      obtain ⟨s1, hs1, rfl⟩ := hx
      obtain ⟨s2, hs2, rfl⟩ := hy
      have h1 := ((hammingSphere_spec a.seq e1 ha s1).mp hs1).2.2
      have h2 := ((hammingSphere_spec a.seq e2 ha s2).mp hs2).2.2
      intro heq
      simp only at heq
      subst heq
      omega
  · simp only [if_true]
    exact List.pairwise_map.mp (editEnvironment_nodup a.seq (adapterK a))

theorem forKey_pairwise_ai (adapters : List Adapter) (hl : ∀ a ∈ adapters, ∀ c ∈ a.seq, c ∈ acgt) (s : Bytes) :
    (forKey s (events adapters)).Pairwise (fun x y => x.ai ≠ y.ai) := by
  have hz : adapters.zipIdx.Pairwise (fun p q => p.2 < q.2) := by
    have := List.pairwise_lt_range' (s := 0) (n := adapters.length)
    rwa [← List.zipIdx_map_snd, List.pairwise_map] at this
  have hev : (events adapters).Pairwise (fun x y => x.key = y.key → x.ai ≠ y.ai) := by
    rw [events, List.pairwise_flatMap]
    constructor
    · intro p hp
      rw [adapterEvents, List.pairwise_map]
      refine (items_keys_pairwise p.1 (hl p.1 ?_)).imp fun hxy hkey => absurd hkey hxy
      exact List.mem_of_getElem? (List.mem_zipIdx_iff_getElem?.mp hp)
    · refine hz.imp fun hpq x hx y hy _ => ?_
      obtain ⟨_, _, rfl⟩ := List.mem_map.mp hx
      obtain ⟨_, _, rfl⟩ := List.mem_map.mp hy
      exact Nat.ne_of_lt hpq
  refine (hev.filter _).imp_of_mem fun hx hy hxy => hxy ?_
  rw [(mem_forKey.mp hx).2, (mem_forKey.mp hy).2]

theorem asciiUpper_acgt (read : Bytes) (h : ∀ c ∈ read, c ∈ acgt) : read.map asciiUpper = read := by
  have hfix : ∀ c ∈ acgt, asciiUpper c = c := by decide
  rw [List.map_congr_left fun c hc => hfix c (h c hc), List.map_id']

/-- `s` is within the tolerance of the adapter at position `j` -/
def Admissible (adapters : List Adapter) (s : Bytes) (j : Nat) (b : Adapter) : Prop :=
  adapters[j]? = some b ∧ Spec.hamming (· == ·) s b.seq ≤ adapterK b

theorem offers_spec (adapters : List Adapter) (L : Nat)
    (hl : ∀ a ∈ adapters, (∀ c ∈ a.seq, c ∈ acgt) ∧ a.seq.length = L ∧ a.indels = false)
    (s : Bytes) (ev : Ev) (hev : ev ∈ forKey s (events adapters)) :
    ∃ b, Admissible adapters s ev.ai b ∧ ev.e = Spec.hamming (· == ·) s b.seq ∧ ev.m = L - ev.e ∧ ev.e ≤ L := by
  obtain ⟨hmem, rfl⟩ := mem_forKey.mp hev
  obtain ⟨b, hb, hit⟩ := (mem_events adapters ev).mp hmem
  obtain ⟨hacgt, hlen, hi⟩ := hl b (List.mem_of_getElem? hb)
  rw [items_noindel_mem b hi] at hit
  obtain ⟨hk, hs, hm⟩ := hit
  obtain ⟨h1, _, h3⟩ := (hammingSphere_spec b.seq ev.e hacgt _).mp hs
  have := Spec.hamming_le_length (· == ·) ev.key b.seq
  exact ⟨b, ⟨hb, by omega⟩, h3.symm, by rw [hm, hlen], by omega⟩

theorem offers_complete (adapters : List Adapter) (s : Bytes) (i : Nat) (a : Adapter)
    (ha : ∀ c ∈ a.seq, c ∈ acgt) (hi : a.indels = false) (hs : ∀ c ∈ s, c ∈ acgt) (hlen : s.length = a.seq.length)
    (hadm : Admissible adapters s i a) :
    (⟨i, s, Spec.hamming (· == ·) s a.seq, a.seq.length - Spec.hamming (· == ·) s a.seq⟩ : Ev) ∈ forKey s (events adapters) := by
  refine mem_forKey.mpr ⟨(mem_events adapters _).mpr ⟨a, hadm.1, ?_⟩, rfl⟩
  rw [items_noindel_mem a hi]
  exact ⟨hadm.2, (hammingSphere_spec a.seq _ ha s).mpr ⟨hlen, hs, rfl⟩, rfl⟩

theorem nearest_entry {D : Type} (ops : DictOps D) (hlaw : ops.Lawful) (adapters : List Adapter) (isPrefix : Bool) (L : Nat)
    (hl : ∀ a ∈ adapters, (∀ c ∈ a.seq, c ∈ acgt) ∧ a.seq.length = L ∧ a.indels = false)
    (s : Bytes) (hs : ∀ c ∈ s, c ∈ acgt) (hsl : s.length = L)
    (i : Nat) (a : Adapter) (hadm : Admissible adapters s i a)
    (hstrict : ∀ j b, Admissible adapters s j b → j ≠ i →
      Spec.hamming (· == ·) s a.seq < Spec.hamming (· == ·) s b.seq) :
    ops.get? (makeIndex ops adapters isPrefix).index s =
      some (i, Spec.hamming (· == ·) s a.seq, L - Spec.hamming (· == ·) s a.seq) := by
  obtain ⟨hacgt, hlen, hi⟩ := hl a (List.mem_of_getElem? hadm.1)
  have hmine := offers_complete adapters s i a hacgt hi hs (by omega) hadm
  rw [hlen] at hmine
  -- every other offer has fewer matches than adapter i's
  have hoff : ∀ ev ∈ forKey s (events adapters), ev.m ≤ L - Spec.hamming (· == ·) s a.seq ∧
      (ev.m = L - Spec.hamming (· == ·) s a.seq → ev.ai = i) := by
    intro ev hev
    obtain ⟨b, hadmb, heb, hmb, hleb⟩ := offers_spec adapters L hl s ev hev
    by_cases hji : ev.ai = i
    · obtain rfl : a = b := Option.some.inj (hadm.1.symm.trans (hji ▸ hadmb.1))
      exact ⟨by omega, fun _ => hji⟩
    · have := hstrict _ _ hadmb hji
      omega
  rw [(makeIndex_get? ops hlaw adapters isPrefix s).2.2, finalOf_eq_some_iff]
  refine ⟨⟨_, hmine, rfl, rfl, rfl⟩, fun ev hev => (hoff ev hev).1, Nat.le_antisymm ?_ ?_⟩
  · -- the offers with that many matches all come from position i, and no position offers `s` twice
    rw [List.countP_eq_length_filter]
    have hpw := (forKey_pairwise_ai adapters (fun a ha => (hl a ha).1) s).filter
      (fun ev => ev.m == L - Spec.hamming (· == ·) s a.seq)
    refine length_le_one_of_pairwise hpw fun x hx y hy hne => hne ?_
    have hx := List.mem_filter.mp hx
    have hy := List.mem_filter.mp hy
    exact ((hoff x hx.1).2 (eq_of_beq hx.2)).trans ((hoff y hy.1).2 (eq_of_beq hy.2)).symm
  · exact List.one_le_countP_iff.mpr ⟨_, hmine, by simp⟩

end Cutadapt.Index
