import Cutadapt.Report
/-! Loop invariant of `report.ErrorRanges._compute_lengths` (`Cutadapt.Report.loop` / `bump`). -/
namespace Cutadapt.Report

/-- `bump` with enough fuel: the `while` loop catches up to `thrL` -/
theorem bump_spec (t lm : Nat) : ∀ (fuel : Nat) (acc : List Nat) (e : Nat), t - e ≤ fuel →
    bump t lm fuel acc e = (max e t, acc ++ List.replicate (t - e) lm)
  | 0, acc, e, h => by
    rw [bump, Nat.le_zero.1 h, List.replicate_zero, List.append_nil, Nat.max_eq_left (Nat.sub_eq_zero_iff_le.1 (Nat.le_zero.1 h))]
  | fuel+1, acc, e, h => by
    rw [bump]
    split
    · rw [bump_spec t lm fuel _ _ (by omega), List.append_assoc, List.singleton_append, ← List.replicate_succ,
        Nat.max_eq_right (by omega), Nat.max_eq_right (by omega), show t - (e + 1) + 1 = t - e by omega]
    · rw [Nat.sub_eq_zero_iff_le.2 (by omega), List.replicate_zero, List.append_nil, Nat.max_eq_left (by omega)]

/-- `loop` that also returns the error counter -/
def loopE (thr : Nat → Nat) : List Nat → Nat → List Nat → Nat × List Nat
  | [], e, acc => (e, acc)
  | L :: rest, e, acc =>
    let (e', acc') := bump (thr L) (L - 1) (thr L) acc e
    loopE thr rest e' acc'

theorem loop_eq_loopE (thr : Nat → Nat) : ∀ (xs : List Nat) (e : Nat) (acc : List Nat),
    loop thr xs e acc = (loopE thr xs e acc).2
  | [], _, _ => rfl
  | L :: rest, e, acc => by
    simp only [loop, loopE]
    exact loop_eq_loopE thr rest _ _

theorem loopE_cons (thr : Nat → Nat) (L : Nat) (rest : List Nat) (e : Nat) (acc : List Nat) :
    loopE thr (L :: rest) e acc = loopE thr rest (max e (thr L)) (acc ++ List.replicate (thr L - e) (L - 1)) := by
  simp only [loopE]
  rw [bump_spec (thr L) (L-1) (thr L) acc e (by omega)]

theorem loopE_append (thr : Nat → Nat) : ∀ (xs ys : List Nat) (e : Nat) (acc : List Nat),
    loopE thr (xs ++ ys) e acc = loopE thr ys (loopE thr xs e acc).1 (loopE thr xs e acc).2
  | [], _, _, _ => rfl
  | x :: xs, ys, e, acc => by
    simp only [List.cons_append, loopE_cons]
    exact loopE_append thr xs ys _ _

/-- whatever is appended comes from the processed lengths -/
theorem loopE_ext (thr : Nat → Nat) : ∀ (xs : List Nat) (e : Nat) (acc : List Nat),
    ∃ ext, (loopE thr xs e acc).2 = acc ++ ext ∧ (∀ y ∈ ext, ∃ x ∈ xs, y = x - 1) ∧
      e ≤ (loopE thr xs e acc).1 ∧ ext.length = (loopE thr xs e acc).1 - e
  | [], e, acc => ⟨[], by simp [loopE]⟩
  | x :: xs, e, acc => by
    rw [loopE_cons]
    obtain ⟨ext, h1, h2, h3, h4⟩ := loopE_ext thr xs (max e (thr x)) (acc ++ List.replicate (thr x - e) (x - 1))
    refine ⟨List.replicate (thr x - e) (x - 1) ++ ext, by rw [h1, List.append_assoc], ?_, Nat.le_trans (Nat.le_max_left ..) h3, ?_⟩
    · intro y hy
      rcases List.mem_append.1 hy with hy | hy
      · exact ⟨x, List.mem_cons_self, (List.mem_replicate.1 hy).2⟩
      · obtain ⟨x', hx', e'⟩ := h2 y hy
        exact ⟨x', List.mem_cons_of_mem _ hx', e'⟩
    · rw [List.length_append, List.length_replicate, h4]; omega

/-- threshold with the convention "0 errors before the first length" -/
def thrz (thr : Nat → Nat) (L : Nat) : Nat := if L = 0 then 0 else thr L

theorem thrz_of_pos (thr : Nat → Nat) {L : Nat} (h : 0 < L) : thrz thr L = thr L := if_neg (Nat.ne_of_gt h)

theorem thrz_le_succ {thr : Nat → Nat} (hm : ∀ a b, a ≤ b → thr a ≤ thr b) (L : Nat) : thrz thr L ≤ thr (L+1) := by
  unfold thrz
  split
  · exact Nat.zero_le _
  · exact hm L (L+1) (Nat.le_succ L)

theorem loopE_range_succ (thr : Nat → Nat) (n : Nat) :
    loopE thr (List.range' 1 (n+1)) 0 [] =
      (max (loopE thr (List.range' 1 n) 0 []).1 (thr (n+1)),
       (loopE thr (List.range' 1 n) 0 []).2 ++ List.replicate (thr (n+1) - (loopE thr (List.range' 1 n) 0 []).1) n) := by
  rw [List.range'_concat, loopE_append, loopE_cons, Nat.one_mul, Nat.add_comm 1 n]
  rfl

theorem loopE_range_fst (thr : Nat → Nat) (hm : ∀ a b, a ≤ b → thr a ≤ thr b) : ∀ L, (loopE thr (List.range' 1 L) 0 []).1 = thrz thr L
  | 0 => rfl
  | L+1 => by rw [loopE_range_succ, loopE_range_fst thr hm L, thrz_of_pos thr (Nat.succ_pos L)]; exact Nat.max_eq_right (thrz_le_succ hm L)

/-- the accumulated list after the lengths `1..L` -/
def accAt (thr : Nat → Nat) (L : Nat) : List Nat := (loopE thr (List.range' 1 L) 0 []).2

theorem accAt_succ (thr : Nat → Nat) (hm : ∀ a b, a ≤ b → thr a ≤ thr b) (L : Nat) :
    accAt thr (L+1) = accAt thr L ++ List.replicate (thr (L+1) - thrz thr L) L := by
  unfold accAt
  rw [loopE_range_succ, loopE_range_fst thr hm]

theorem accAt_length (thr : Nat → Nat) (hm : ∀ a b, a ≤ b → thr a ≤ thr b) (L : Nat) : (accAt thr L).length = thrz thr L := by
  obtain ⟨ext, h1, _, _, h4⟩ := loopE_ext thr (List.range' 1 L) 0 []
  rw [accAt, h1, List.nil_append, h4, loopE_range_fst thr hm]
  rfl

theorem accAt_lt (thr : Nat → Nat) (L y : Nat) (hy : y ∈ accAt thr L) : y < L := by
  obtain ⟨ext, h1, h2, _, _⟩ := loopE_ext thr (List.range' 1 L) 0 []
  rw [accAt, h1, List.nil_append] at hy
  obtain ⟨x, hx, rfl⟩ := h2 y hy
  have := List.mem_range'_1.1 hx
  omega

theorem accAt_prefix (thr : Nat → Nat) (hm : ∀ a b, a ≤ b → thr a ≤ thr b) {L n : Nat} (h : L ≤ n) :
    ∃ ext, accAt thr n = accAt thr L ++ ext ∧ ∀ y ∈ ext, L ≤ y := by
  induction h with
  | refl => exact ⟨[], (List.append_nil _).symm, fun _ hy => (nomatch hy)⟩
  | @step n hn ih =>
    obtain ⟨ext, h1, h2⟩ := ih
    refine ⟨ext ++ List.replicate (thr (n+1) - thrz thr n) n, ?_, ?_⟩
    · rw [accAt_succ thr hm, h1, List.append_assoc]
    · intro y hy
      rcases List.mem_append.1 hy with hy | hy
      · exact h2 y hy
      · exact (List.mem_replicate.1 hy).2 ▸ hn

theorem map_succ_range (n : Nat) : (List.range n).map (· + 1) = List.range' 1 n := by
  rw [List.range_eq_range']
  have := List.map_add_range' (a := 1) (s := 0) (n := n) (step := 1)
  simpa [Nat.add_comm] using this

theorem errorRanges_eq (thr : Nat → Nat) (n : Nat) : errorRanges thr n = accAt thr n ++ [n] := by
  unfold errorRanges accAt
  rw [map_succ_range, loop_eq_loopE]

theorem takeWhile_append_stop {α : Type} {p : α → Bool} (xs ys : List α) (hx : ∀ x ∈ xs, p x = true) (hy : ∀ y ∈ ys, p y = false) :
    (xs ++ ys).takeWhile p = xs := by
  rw [List.takeWhile_append_of_pos hx]
  cases ys with
  | nil => exact List.append_nil xs
  | cons y ys =>
    have hny : ¬ p y = true := by
      rw [hy y List.mem_cons_self]
      exact Bool.false_ne_true
    rw [List.takeWhile_cons_of_neg hny, List.append_nil]

theorem errorRanges_length (thr : Nat → Nat) (hm : ∀ a b, a ≤ b → thr a ≤ thr b) (n : Nat) :
    (errorRanges thr n).length = thrz thr n + 1 := by
  rw [errorRanges_eq, List.length_append, accAt_length thr hm]; rfl

theorem errorRanges_getLast (thr : Nat → Nat) (n : Nat) : (errorRanges thr n).getLast? = some n := by
  rw [errorRanges_eq]; simp

end Cutadapt.Report
