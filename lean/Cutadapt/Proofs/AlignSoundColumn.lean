import Cutadapt.Proofs.AlignSound
/-! Soundness of `Align.locate`, the column: what `initEntry`, `stepColumn` and `shrinkLast` compute, cell by cell,
    and the invariant one column step preserves. -/
namespace Cutadapt.Align.Sound
open Cutadapt Cutadapt.Align Cutadapt.Spec Cutadapt.Generated

/-- the start an initial cell remembers: as far left of `(i, minN)` as the flags allow, on its diagonal -/
theorem initEntry_decode (cfg : Cfg) (minN i : Nat) :
    decode (initEntry cfg minN i).origin =
      (if cfg.startInRef then i - minN else 0, if cfg.startInQuery then minN - i else 0) := by
  rw [Prod.ext_iff, decode_fst, decode_snd]
  unfold initEntry
  cases cfg.startInRef <;> cases cfg.startInQuery <;> simp only [Bool.false_eq_true, if_false, if_true] <;> omega

theorem initEntry_cost (cfg : Cfg) (minN i : Nat) :
    (initEntry cfg minN i).cost =
      (if cfg.startInRef then (if cfg.startInQuery then min i minN else minN)
        else if cfg.startInQuery then i else max i minN) * cfg.indelCost := by
  unfold initEntry
  cases cfg.startInRef <;> cases cfg.startInQuery <;> rfl

theorem initEntry_good {ctx : Ctx} (hc : 1 ≤ ctx.cfg.indelCost) {i minN : Nat} (hi : i ≤ ctx.ref.length)
    (hj : minN ≤ ctx.query.length) :
    Good ctx i minN (initEntry ctx.cfg minN i) := by
  refine good_of_box hc hi hj (initEntry_decode ..) ?_ ?_ ?_ ?_ ?_
  · split <;> omega
  · split <;> omega
  · cases ctx.cfg.startInRef <;> simp
  · cases ctx.cfg.startInQuery <;> simp
  · rw [initEntry_cost]
    apply Nat.mul_le_mul_right
    cases ctx.cfg.startInRef <;> cases ctx.cfg.startInQuery <;>
      simp only [Bool.false_eq_true, if_false, if_true, Nat.sub_zero, Nat.sub_sub_eq_min] <;> omega

theorem initEntry_score_eq (cfg : Cfg) (minN i : Nat) :
    (initEntry cfg minN i).score = if cfg.startInRef then 0 else (i : Int) * deletionScore := by
  unfold initEntry
  cases cfg.startInRef <;> cases cfg.startInQuery <;> rfl

theorem initEntry_score {cfg : Cfg} (hc : 1 ≤ cfg.indelCost) (i minN : Nat) :
    ScoreOK i (initEntry cfg minN i) := by
  unfold initEntry ScoreOK
  simp only [deletionScore]
  -- in each of the four flag cases the cost is a number of skipped rows or columns times the indel cost;
  -- if it is 0 that number is 0, which fixes the score and the origin
  split <;>
  · refine ⟨by simp only; omega, ?_⟩
    simp only
    intro h0
    have h := (Nat.mul_eq_zero.mp h0).resolve_right (Nat.ne_of_gt hc)
    omega

/-- the initial band limit, where it is not the last row, is row `k + 1`, and the cells from there on are above `k` -/
theorem initEntry_beyond {cfg : Cfg} (hc : 1 ≤ cfg.indelCost) {m i : Nat} (minN : Nat)
    (h1 : (if cfg.startInRef then m else min m (cfg.k + 1)) ≤ i)
    (h2 : (if cfg.startInRef then m else min m (cfg.k + 1)) < m) : cfg.k < (initEntry cfg minN i).cost := by
  cases hs : cfg.startInRef <;> simp only [hs, Bool.false_eq_true, if_false, if_true] at h1 h2
  · rw [initEntry_cost, hs]
    simp only [Bool.false_eq_true, if_false]
    split
    · have := Nat.le_mul_of_pos_right i hc; omega
    · have := Nat.le_mul_of_pos_right (max i minN) hc; omega
  · omega

/-- cell 0 of the next column -/
def stepCell0 (cfg : Cfg) (c0 : Entry) : Entry :=
  if cfg.startInQuery then ⟨c0.cost, c0.score, c0.origin + 1⟩
  else ⟨c0.cost + cfg.indelCost, c0.score + insertionScore, c0.origin⟩

theorem fillCells_length (cfg : Cfg) (ascii : Bool) (q : Sym) (last : Nat) :
    ∀ (olds : List Entry) (rs : List Sym) (i : Nat) (diag prevNew : Entry), olds.length ≤ rs.length →
    (fillCells cfg ascii q last i diag prevNew rs olds).length = olds.length
  | [], rs, _, _, _, _ => by cases rs <;> simp [fillCells]
  | _ :: _, [], _, _, _, h => by simp at h
  | cur :: olds, r :: rs, i, diag, prevNew, h => by
    unfold fillCells
    split
    · simp only [List.length_cons]
      rw [fillCells_length cfg ascii q last olds rs (i+1) cur _ (by simpa using h)]
    · rfl

/-- the recurrence `fillCells` implements; `diag` and `prevNew` stand in front of the old and the new cells -/
theorem fillCells_getD (cfg : Cfg) (ascii : Bool) (q : Sym) (last : Nat) (d : Entry) :
    ∀ (olds : List Entry) (rs : List Sym) (i0 : Nat) (diag prevNew : Entry), olds.length ≤ rs.length →
    ∀ t, t < olds.length →
      (fillCells cfg ascii q last i0 diag prevNew rs olds).getD t d =
        if i0 + t ≤ last then
          cell cfg (charsEqual ascii (rs.getD t 0) q) ((diag :: olds).getD t d) (olds.getD t d)
            ((prevNew :: fillCells cfg ascii q last i0 diag prevNew rs olds).getD t d)
        else olds.getD t d
  | [], _, _, _, _, _, t, ht => by simp at ht
  | _ :: _, [], _, _, _, h, _, _ => by simp at h
  | cur :: olds, r :: rs, i0, diag, prevNew, hlen, t, ht => by
    rw [fillCells]
    by_cases hle : i0 ≤ last
    · rw [if_pos hle]
      cases t with
      | zero => rw [if_pos (show i0 + 0 ≤ last from hle)]; rfl
      | succ t =>
        rw [List.getD_cons_succ, fillCells_getD cfg ascii q last d olds rs (i0+1) cur _
          (by simpa using hlen) t (by simpa using ht), Nat.add_right_comm i0 1 t]
        rfl
    · rw [if_neg hle, if_neg (by omega)]

section
variable {cfg : Cfg} {ascii : Bool} {refE : List Sym} {q : Sym} {last : Nat} {col : List Entry}

theorem stepColumn_length (hlen : col.length = refE.length + 1) :
    (stepColumn cfg ascii refE q last col).length = col.length := by
  match col, hlen with
  | c0 :: rest, hlen =>
    show (_ :: fillCells ..).length = _
    rw [List.length_cons, List.length_cons, fillCells_length _ _ _ _ _ _ _ _ _ (by simpa using Nat.le_of_eq hlen)]

theorem stepColumn_getD_zero (d : Entry) (hlen : col.length = refE.length + 1) :
    (stepColumn cfg ascii refE q last col).getD 0 d = stepCell0 cfg (col.getD 0 d) := by
  match col, hlen with
  | c0 :: rest, _ => rfl

theorem stepColumn_getD_succ (d : Entry) (hlen : col.length = refE.length + 1) {i : Nat} (hi : i < refE.length) :
    (stepColumn cfg ascii refE q last col).getD (i+1) d =
      if i + 1 ≤ last then
        cell cfg (charsEqual ascii (refE.getD i 0) q) (col.getD i d) (col.getD (i+1) d)
          ((stepColumn cfg ascii refE q last col).getD i d)
      else col.getD (i+1) d := by
  match col, hlen with
  | c0 :: rest, hlen =>
    have hlen' : rest.length = refE.length := by simpa using hlen
    show (_ :: fillCells ..).getD (i+1) d = _
    rw [List.getD_cons_succ, fillCells_getD cfg ascii q last d rest refE 1 c0 _ (by omega) i (by omega),
      Nat.add_comm 1 i]
    rfl

theorem stepColumn_ind (d : Entry) (hlen : col.length = refE.length + 1) (P : Nat → Entry → Prop)
    (h0 : P 0 (stepCell0 cfg (col.getD 0 d)))
    (hfresh : ∀ i, i < refE.length → i + 1 ≤ last → ∀ prev, P i prev →
      P (i+1) (cell cfg (charsEqual ascii (refE.getD i 0) q) (col.getD i d) (col.getD (i+1) d) prev))
    (hstale : ∀ i, i < refE.length → last < i + 1 → P (i+1) (col.getD (i+1) d)) :
    ∀ i, i ≤ refE.length → P i ((stepColumn cfg ascii refE q last col).getD i d)
  | 0, _ => by rw [stepColumn_getD_zero d hlen]; exact h0
  | i+1, hi => by
    rw [stepColumn_getD_succ d hlen hi]
    split
    · next hle => exact hfresh i hi hle _ (stepColumn_ind d hlen P h0 hfresh hstale i (by omega))
    · next hlt => exact hstale i hi (by omega)

end

theorem shrinkLast_le (k : Nat) (col : List Entry) : ∀ l, shrinkLast k col l ≤ l + 1
  | 0 => by unfold shrinkLast; split <;> omega
  | l+1 => by
    unfold shrinkLast; split
    · have := shrinkLast_le k col l; omega
    · omega

theorem shrinkLast_spec (k : Nat) (col : List Entry) : ∀ l i, shrinkLast k col l ≤ i → i ≤ l →
    k < (col.getD i default).cost
  | 0, i, h1, h2 => by
    unfold shrinkLast at h1
    have : i = 0 := by omega
    subst this
    split at h1
    · assumption
    · omega
  | l+1, i, h1, h2 => by
    unfold shrinkLast at h1
    split at h1
    · by_cases hi : i = l + 1
      · subst hi; assumption
      · exact shrinkLast_spec k col l i h1 (by omega)
    · omega

theorem shrinkLast_eq_succ (k : Nat) (col : List Entry) (l : Nat) :
    shrinkLast k col l = l + 1 ↔ (col.getD l default).cost ≤ k := by
  cases l with
  | zero => unfold shrinkLast; split <;> omega
  | succ l =>
    have := shrinkLast_le k col l
    unfold shrinkLast
    split <;> omega

theorem shrinkLast_pos (k : Nat) (col : List Entry) (h : (col.getD 0 default).cost ≤ k) :
    ∀ l, 1 ≤ shrinkLast k col l
  | 0 => by
    unfold shrinkLast
    rw [if_neg (by omega)]
    omega
  | l+1 => by
    unfold shrinkLast
    split
    · exact shrinkLast_pos k col h l
    · omega

/-- what is known about cell `i` of the column for query prefix length `j` -/
def CellInv (ctx : Ctx) (j last i : Nat) (e : Entry) : Prop :=
  GoodK ctx i j e ∧ ScoreOK i e ∧ (last < i → ctx.cfg.k < e.cost)

theorem stepCell0_inv {ctx : Ctx} (hc : 1 ≤ ctx.cfg.indelCost) {j : Nat} (hj : j < ctx.query.length) {c0 : Entry}
    (hg : GoodK ctx 0 j c0) (hs : ScoreOK 0 c0) :
    GoodK ctx 0 (j+1) (stepCell0 ctx.cfg c0) ∧ ScoreOK 0 (stepCell0 ctx.cfg c0) := by
  unfold stepCell0
  cases hq : ctx.cfg.startInQuery
  case true =>
    rw [if_pos rfl]
    -- the cell's script has no reference characters, so it is all insertions, as many as its box is wide;
    -- the new start is one to the right and the new end too
    have key : c0.cost ≤ ctx.cfg.k → 0 ≤ c0.origin ∧ Good ctx 0 (j+1) ⟨c0.cost, c0.score, c0.origin + 1⟩ := by
      intro hk
      obtain ⟨h1, h2, _, _, s, hl, hr, hcst⟩ := hg hk
      have ho : 0 ≤ c0.origin := by rw [decode_fst] at h1; omega
      rw [decode_nonneg ho] at h2 hl hr
      rw [seg_self] at hl
      have hcs := cost_of_lhs_nil ctx.eq ctx.cfg.indelCost s hl
      rw [hr, seg_length, Nat.min_eq_left (Nat.le_of_lt hj)] at hcs
      refine ⟨ho, good_of_box hc (Nat.zero_le _) hj (a := 0) (r := c0.origin.toNat + 1) ?_ (Nat.le_refl _) (by omega)
        (.inl rfl) (.inr hq) ?_⟩
      · show decode (c0.origin + 1) = _
        rw [decode_nonneg (by omega)]
        congr 1
        omega
      · show max (0 - 0) (j + 1 - (c0.origin.toNat + 1)) * _ ≤ c0.cost
        rw [Nat.sub_self, Nat.zero_max, Nat.add_sub_add_right, ← hcs]; exact hcst
    refine ⟨fun hk => (key hk).2, ?_⟩
    obtain ⟨hs1, hs2⟩ := hs
    refine ⟨hs1, ?_⟩
    simp only
    intro h0
    have := (key (by omega)).1
    have := hs2 h0
    omega
  case false =>
    rw [if_neg Bool.false_ne_true]
    refine ⟨?_, ?_⟩
    · intro hk
      simp only at hk
      exact good_ins hj (hg (by omega)) _
    · obtain ⟨hs1, hs2⟩ := hs
      refine ⟨by simp only [insertionScore]; omega, ?_⟩
      simp only
      intro h0
      omega

structure ColInv (ctx : Ctx) (j last : Nat) (col : List Entry) : Prop where
  len : col.length = ctx.ref.length + 1
  cells : ∀ i, i ≤ ctx.ref.length → CellInv ctx j last i (col.getD i default)

theorem stepColumn_inv {ctx : Ctx} (hc : 1 ≤ ctx.cfg.indelCost) {j : Nat} (hj : j < ctx.query.length)
    {last : Nat} {col : List Entry} (h : ColInv ctx j last col) :
    ColInv ctx (j+1) last (stepColumn ctx.cfg ctx.ascii ctx.ref ctx.query[j] last col) := by
  refine ⟨(stepColumn_length h.len).trans h.len, stepColumn_ind default h.len (CellInv ctx (j+1) last) ?_ ?_ ?_⟩
  · obtain ⟨g, s, _⟩ := h.cells 0 (Nat.zero_le _)
    obtain ⟨g', s'⟩ := stepCell0_inv hc hj g s
    exact ⟨g', s', fun h => by omega⟩
  · intro i hi hle prev ⟨pg, ps, _⟩
    obtain ⟨dg, ds, _⟩ := h.cells i (by omega)
    obtain ⟨cg, cs, _⟩ := h.cells (i+1) (by omega)
    rw [← List.getElem_eq_getD (h := hi) 0]
    exact ⟨cell_goodK hi hj dg cg pg, cell_score hc _ ds cs ps, fun h => by omega⟩
  · intro i hi hlt
    obtain ⟨_, cs, cl⟩ := h.cells (i+1) (by omega)
    exact ⟨fun hk => by have := cl hlt; omega, cs, cl⟩

theorem shrink_edge {ctx : Ctx} {j last : Nat} {col : List Entry} (h : ColInv ctx j last col) :
    ∀ i, shrinkLast ctx.cfg.k col last ≤ i → i ≤ ctx.ref.length → ctx.cfg.k < (col.getD i default).cost := by
  intro i h1 h2
  by_cases hil : i ≤ last
  · exact shrinkLast_spec _ col last i h1 hil
  · exact (h.cells i h2).2.2 (by omega)

theorem colInv_shrink {ctx : Ctx} {j last : Nat} {col : List Entry} (h : ColInv ctx j last col) :
    ColInv ctx j (min (shrinkLast ctx.cfg.k col last) ctx.ref.length) col :=
  ⟨h.len, fun i hi => ⟨(h.cells i hi).1, (h.cells i hi).2.1, fun hlt => shrink_edge h i (by omega) hi⟩⟩

end Cutadapt.Align.Sound
