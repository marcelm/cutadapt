import Cutadapt.Spec.AdapterNotation
/-! A decidable check for the well-formedness conditions of `Cutadapt.Notation` (used to exhibit concrete instances). -/
namespace Cutadapt.ParserProofs
open Cutadapt.Parser Cutadapt.Notation

def paramWfB (q : Param) : Bool :=
  match q.name with
  | .e | .maxErrors | .maxErrorRate =>
    (match q.value with
     | some (.int _) => true
     | some (.dec _ fr) => !fr.isEmpty
     | none => false)
  | .o | .minOverlap =>
    (match q.value with
     | some (.int _) => true
     | _ => false)
  | _ => q.value.isNone

theorem paramWfB_sound {q : Param} (h : paramWfB q = true) : q.WF := by
  obtain ⟨n, v⟩ := q
  -- for each name and shape of value, either the check evaluates to `false` or `WF` is immediate
  cases n <;> rcases v with _ | _ | ⟨_, _ | _⟩ <;> cases h <;> simp [Param.WF, NumLit.WF]

def runWfB (r : Run) : Bool :=
  seqChars.contains r.c && (match r.rep with | none => true | some n => decide (n ≤ 10000))

theorem runWfB_sound {r : Run} (h : runWfB r = true) : r.WF := by
  simp only [runWfB, Bool.and_eq_true, List.contains_iff_mem] at h
  refine ⟨h.1, ?_⟩
  intro n hn
  simpa [hn] using h.2

def edgeB (sq : Str) : Bool :=
  !sq.isEmpty && (match sq.head? with | some c => !isX c | none => true) &&
    (match sq.getLast? with | some c => !isX c | none => true)

theorem edgeB_sound {sq : Str} (h : edgeB sq = true) : edgeOK sq := by
  simp only [edgeB, Bool.and_eq_true, Bool.not_eq_true', List.isEmpty_eq_false_iff] at h
  obtain ⟨⟨h1, h2⟩, h3⟩ := h
  refine ⟨h1, ?_, ?_⟩
  · intro c hc; rw [hc] at h2; simpa using h2
  · intro c hc; rw [hc] at h3; simpa using h3

def partWfB (p : Part) : Bool :=
  (match p.name with | none => true | some n => n.all (fun c => nameChars.contains c)) &&
  p.runs.all runWfB && p.params.all paramWfB && edgeB (expandRuns p.runs)

theorem partWfB_sound {p : Part} (h : partWfB p = true) : p.WF := by
  simp only [partWfB, Bool.and_eq_true, List.all_eq_true] at h
  obtain ⟨⟨⟨h1, h2⟩, h3⟩, h4⟩ := h
  refine ⟨?_, fun r hr => runWfB_sound (h2 r hr), fun q hq => paramWfB_sound (h3 q hq), edgeB_sound h4⟩
  intro n hn c hc
  rw [hn] at h1
  simp only [List.all_eq_true, List.contains_iff_mem] at h1
  exact h1 c hc

def noAnywhereB (p : Part) : Bool := p.params.all (fun q => decide (q.name ≠ .anywhere))

theorem noAnywhereB_sound {p : Part} (h : noAnywhereB p = true) : p.noAnywhere := by
  simp only [noAnywhereB, List.all_eq_true, decide_eq_true_eq] at h
  exact h

def bodyWfB : Body → Bool
  | .single p => partWfB p
  | .linked f b => partWfB f && partWfB b && noAnywhereB f && noAnywhereB b

theorem bodyWfB_sound {b : Body} (h : bodyWfB b = true) : b.WF := by
  cases b with
  | single p => exact partWfB_sound h
  | linked f bk =>
    simp only [bodyWfB, Bool.and_eq_true] at h
    exact ⟨partWfB_sound h.1.1.1, partWfB_sound h.1.1.2, noAnywhereB_sound h.1.2, noAnywhereB_sound h.2⟩

def fileParamB (q : Param) : Bool :=
  paramWfB q && (match q.name with
    | .e | .maxErrors | .maxErrorRate | .o | .minOverlap | .indels | .noindels => true
    | _ => false)

theorem fileParamB_sound {q : Param} (h : fileParamB q = true) : q.WF ∧ fileParamName q.name := by
  simp only [fileParamB, Bool.and_eq_true] at h
  refine ⟨paramWfB_sound h.1, ?_⟩
  unfold fileParamName
  cases hn : q.name <;> rw [hn] at h <;> simp at h ⊢

def recordWfB (a : FileAnchor) (r : Record) : Bool :=
  bodyWfB r.body && isAscii r.header &&
  (match a with
   | .caret => r.body.first.name.isNone && decide (r.body.first.restr = .none)
   | .dollar => decide (r.body.last.restr = .none) && r.body.last.params.isEmpty
   | .none => true)

theorem recordWfB_sound {a : FileAnchor} {r : Record} (h : recordWfB a r = true) : r.WF a := by
  simp only [recordWfB, Bool.and_eq_true] at h
  obtain ⟨⟨h1, h2⟩, h3⟩ := h
  refine ⟨bodyWfB_sound h1, h2, ?_, ?_⟩
  · intro ha; subst ha
    simp only [Bool.and_eq_true, Option.isNone_iff_eq_none, decide_eq_true_eq] at h3
    exact h3
  · intro ha; subst ha
    simp only [Bool.and_eq_true, decide_eq_true_eq, List.isEmpty_iff] at h3
    exact h3

def specWfB : Spec → Bool
  | .plain _ b => bodyWfB b
  | .file _ a path fparams records =>
    path.all (fun c => c != ';' && decide (c.toNat < 128)) && fparams.all fileParamB && records.all (recordWfB a)

theorem specWfB_sound {s : Spec} (h : specWfB s = true) : s.WF := by
  cases s with
  | plain o b => exact bodyWfB_sound h
  | file o a path fparams records =>
    simp only [specWfB, Bool.and_eq_true, List.all_eq_true, bne_iff_ne, ne_eq, decide_eq_true_eq] at h
    exact ⟨h.1.1, fun q hq => fileParamB_sound (h.1.2 q hq), fun r hr => recordWfB_sound (h.2 r hr)⟩

end Cutadapt.ParserProofs
