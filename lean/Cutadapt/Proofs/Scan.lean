import Cutadapt.Qualtrim
import Cutadapt.Proofs.FirstMax
/-! Invariant of the BWA-style scan `scanGo`, and the values `--nextseq-trim` hands to it (used by C13). Core Lean only. -/
namespace Cutadapt.Qualtrim

/-- sum of the first `j` values -/
def pre (vs : List Int) (j : Nat) : Int := (vs.take j).sum

theorem pre_cons (v : Int) (vs : List Int) (j : Nat) : pre (v :: vs) (j+1) = v + pre vs j := by
  simp [pre, List.take, List.sum_cons]

@[simp] theorem pre_zero (vs : List Int) : pre vs 0 = 0 := by simp [pre]

theorem pre_succ {ws vs : List Int} {v : Int} {j : Nat} (h : ws.drop j = v :: vs) : pre ws (j+1) = pre ws j + v := by
  simp [pre, take_succ_of_drop h]

/-- `Reach vs j`: the loop visits the first `j` values without `break` -/
def Reach (vs : List Int) (j : Nat) : Prop := ∀ t, 1 ≤ t → t ≤ j → 0 ≤ pre vs t

theorem Reach.zero (vs : List Int) : Reach vs 0 := fun _ h1 h0 => absurd (Nat.le_trans h1 h0) (Nat.not_succ_le_zero 0)

theorem Reach.mono {vs : List Int} {j t : Nat} (h : Reach vs j) (ht : t ≤ j) : Reach vs t :=
  fun u h1 hu => h u h1 (Nat.le_trans hu ht)

theorem Reach.succ {vs : List Int} {j : Nat} (h : Reach vs j) (h0 : 0 ≤ pre vs (j+1)) : Reach vs (j+1) :=
  fun t h1 ht => (Nat.le_or_eq_of_le_succ ht).elim (h t h1) (fun e => e ▸ h0)

theorem Reach.nonneg {vs : List Int} {j : Nat} (h : Reach vs j) : 0 ≤ pre vs j := by
  cases j with
  | zero => rw [pre_zero]; exact Int.le_refl 0
  | succ j => exact h _ (Nat.succ_pos j) (Nat.le_refl _)

/-- Loop invariant over the whole list `ws`: after `j` values the running sum is `pre ws j`, and `best`, `max_qual` are the
    first maximiser so far and its sum. -/
theorem scanGo_spec (ws : List Int) : ∀ (vs : List Int) (j best : Nat), ws.drop j = vs → j ≤ ws.length → Reach ws j →
    FirstMax (Reach ws) (pre ws) j best →
    FirstMax (Reach ws) (pre ws) ws.length (scanGo vs j (pre ws j) (pre ws best) best) := by
  intro vs
  induction vs with
  | nil =>
    intro j best hd hj _ h
    rw [← eq_length_of_drop hd hj]; exact h
  | cons v vs ih =>
    intro j best hd hj hr h
    have ih := fun best => ih (j+1) best (drop_succ_of_drop hd) (lt_length_of_drop hd)
    simp only [scanGo, ← pre_succ hd]
    split
    · -- `break`: no longer prefix is reachable
      refine h.extend hj fun t hjt _ hrt => ?_
      have := hrt (j+1) (by omega) hjt
      omega
    · have hr' := hr.succ (by omega)
      split
      · exact ih (j+1) hr' (h.step_new hr' (by omega))
      · exact ih best hr' (h.step_keep fun _ => by omega)

theorem bestPrefix_firstMax (vs : List Int) : FirstMax (Reach vs) (pre vs) vs.length (bestPrefix vs) := by
  have := scanGo_spec vs vs 0 0 rfl (Nat.zero_le _) (.zero vs) (.zero (.zero vs))
  rwa [pre_zero] at this

/-- Specification of the scan: `bestPrefix vs` is the *smallest* `j` among `0` and the reachable prefix
    lengths that maximises the prefix sum. -/
theorem bestPrefix_spec (vs : List Int) :
    bestPrefix vs ≤ vs.length ∧ Reach vs (bestPrefix vs) ∧
    (∀ j, j ≤ vs.length → Reach vs j → pre vs j ≤ pre vs (bestPrefix vs)) ∧
    (∀ t, t < bestPrefix vs → pre vs t < pre vs (bestPrefix vs)) :=
  have h := bestPrefix_firstMax vs
  ⟨h.le, h.adm, h.max, fun t ht => h.first t ht (h.adm.mono (Nat.le_of_lt ht))⟩

theorem length_nextseqVals {seq quals : Bytes} (cutoff base : Int) (hl : seq.length = quals.length) :
    (nextseqVals seq quals cutoff base).length = quals.length := by
  rw [nextseqVals, List.length_zipWith, hl, Nat.min_self]

theorem nextseqVals_take (seq quals : Bytes) (cutoff base : Int) (k : Nat) :
    nextseqVals (seq.take k) (quals.take k) cutoff base = (nextseqVals seq quals cutoff base).take k :=
  List.take_zipWith.symm

end Cutadapt.Qualtrim
