import Cutadapt.Stats
/-! The modifier lists assembled by `makeModsSingle` / `makeModsPaired`, stage by stage: helper lemmas for C10. -/
namespace Cutadapt

section Rank
variable {α : Type} (rk : α → Nat)

def RankSorted (l : List α) : Prop := l.Pairwise (fun a b => rk a ≤ rk b)

/-- sorted, and every rank is at most `r` -/
def Below (r : Nat) (l : List α) : Prop := RankSorted rk l ∧ ∀ a ∈ l, rk a ≤ r

theorem rankSorted_of_const (r : Nat) (l : List α) (h : ∀ a ∈ l, rk a = r) : RankSorted rk l :=
  List.pairwise_of_forall_mem_list fun a ha b hb => Nat.le_of_eq ((h a ha).trans (h b hb).symm)

theorem Below.append {r r' : Nat} {l1 l2 : List α} (h1 : Below rk r l1) (h2 : RankSorted rk l2)
    (lo : ∀ b ∈ l2, r ≤ rk b) (hi : ∀ b ∈ l2, rk b ≤ r') (hr : r ≤ r') : Below rk r' (l1 ++ l2) := by
  refine ⟨?_, ?_⟩
  · unfold RankSorted
    rw [List.pairwise_append]
    refine ⟨h1.1, h2, ?_⟩
    intro a ha b hb
    have := h1.2 a ha
    have := lo b hb
    omega
  · intro a ha
    rcases List.mem_append.1 ha with ha | ha
    · have := h1.2 a ha; omega
    · exact hi a ha

def Ranked (bs : List (Nat × List α)) : Prop := ∀ p ∈ bs, ∀ a ∈ p.2, rk a = p.1

theorem rankSorted_flatMap {bs : List (Nat × List α)} (hb : Ranked rk bs) (hs : (bs.map (·.1)).Pairwise (· ≤ ·)) :
    RankSorted rk (bs.flatMap (·.2)) := by
  refine List.pairwise_flatMap.2 ⟨fun p hp => rankSorted_of_const rk p.1 p.2 (hb p hp), ?_⟩
  refine (List.pairwise_map.1 hs).imp_of_mem ?_
  intro p q hp hq hpq x hx y hy
  rw [hb p hp x hx, hb q hq y hy]
  exact hpq

theorem filterMap_eq_nil_of_rank {β : Type _} {f : α → Option β} {r r' : Nat} (hf : ∀ a, (f a).isSome → rk a = r)
    {l : List α} (hl : ∀ a ∈ l, rk a = r') (hne : r' ≠ r) : l.filterMap f = [] := by
  rw [List.filterMap_eq_nil_iff]
  intro a ha
  cases hfa : f a with
  | none => rfl
  | some v => exact absurd ((hl a ha).symm.trans (hf a (by rw [hfa]; rfl))) hne

theorem filterMap_flatMap_of_rank {β : Type} {f : α → Option β} {r : Nat} (hf : ∀ a, (f a).isSome → rk a = r)
    {bs : List (Nat × List α)} (hb : Ranked rk bs) :
    (bs.flatMap (·.2)).filterMap f = ((bs.filter (·.1 == r)).flatMap (·.2)).filterMap f := by
  induction bs with
  | nil => rfl
  | cons p bs ih =>
    have ih := ih fun q hq => hb q (List.mem_cons_of_mem _ hq)
    rw [List.flatMap_cons, List.filterMap_append, ih, List.filter_cons]
    split
    · rw [List.flatMap_cons, List.filterMap_append]
    · rename_i hne
      rw [filterMap_eq_nil_of_rank rk hf (hb p List.mem_cons_self) (by simpa using hne), List.nil_append]
end Rank

/-- documented position of each read modifier: cut 0, NextSeq 1, quality 2, adapters 3, poly-A 4, `--length` 5, `--trim-n` 6,
    `--length-tag` 7, `--strip-suffix` 8, prefix/suffix 9, and the final group zero-cap / rename 10 -/
def stageRank : SMod → Nat
  | .cut _ => 0
  | .nextseq _ _ => 1
  | .qtrim _ _ _ => 2
  | .adapters _ _ => 3
  | .revcomp _ _ _ => 3
  | .polyA _ => 4
  | .shorten _ => 5
  | .trimN => 6
  | .lengthTag _ => 7
  | .stripSuffix _ => 8
  | .prefixSuffix _ _ => 9
  | .zeroCap _ => 10
  | .rename _ => 10

/-- rank of a paired-end modifier: that of the wrapped single-end modifier(s) -/
def pRank : PMod → Nat
  | .wrap (some m) _ => stageRank m
  | .wrap none (some m) => stageRank m
  | .wrap none none => 0
  | .pairedRevcomp .. => 3
  | .pairAdapters .. => 3
  | .pairedRename .. => 10

def cutStage (c : List Int) : List SMod := (c.filter (· != 0)).map .cut
def nextseqStage (o : Opts) : List SMod := match o.nextseqTrim with | some c => [.nextseq c o.qualityBase] | none => []
def qtrimStage (q : Option (Option (Int × Int))) (base : Int) : List SMod :=
  match q with
  | some (some (a, b)) => [.qtrim a b base]    -- `-q a,b`
  | _ => []                                    -- not given, or the literal `0`
/-- `first` = no earlier modifier exists, so the read object handed to the cutter is `info.original_read` -/
def adapterStage (o : Opts) (ads : List Matchable) (first : Bool) : List SMod :=
  if ads.isEmpty then [] else
  if o.revcomp then [.revcomp ⟨ads, o.times, o.action⟩ (!o.renameGiven) first] else [.adapters ⟨ads, o.times, o.action⟩ first]
def polyAStage (o : Opts) : List SMod := if o.polyA then [.polyA false] else []
def shortenStage (o : Opts) : List SMod := match o.length with | some l => [.shorten l] | none => []
def trimNStage (o : Opts) : List SMod := if o.trimN then [.trimN] else []
def lengthTagStage (o : Opts) : List SMod := match o.lengthTag with | some t => [.lengthTag t] | none => []
def stripSuffixStage (o : Opts) : List SMod := o.stripSuffix.map .stripSuffix
def prefixSuffixStage (o : Opts) : List SMod := if !o.pfx.isEmpty || !o.sfx.isEmpty then [.prefixSuffix o.pfx o.sfx] else []
def zeroCapStage (o : Opts) : List SMod := if o.zeroCap then [.zeroCap o.qualityBase.toNat] else []
def renameStage (o : Opts) : List SMod := match o.rename with | some t => [.rename t] | none => []

theorem bothEndMods_eq (o : Opts) :
    bothEndMods o = trimNStage o ++ lengthTagStage o ++ stripSuffixStage o ++ prefixSuffixStage o ++ zeroCapStage o := rfl

theorem qtrimOf_toList (q : Option (Option (Int × Int))) (base : Int) : (qtrimOf q base).toList = qtrimStage q base := by
  unfold qtrimOf qtrimStage
  split <;> simp

theorem cutMods_ok {c : List Int} {l : List SMod} (h : cutMods c = .ok l) : l = cutStage c := by
  unfold cutMods at h
  split at h
  · cases h
  · split at h
    · cases h
    · injection h with h; exact h.symm

/-- `make_unconditional_cutters` accepts at most two values per side, not both of the same sign -/
theorem cutMods_ok_iff (c : List Int) :
    (∃ l, cutMods c = .ok l) ↔ (c.length ≤ 2 ∧ ¬ (c.length = 2 ∧ c[0]! * c[1]! > 0)) := by
  unfold cutMods
  split
  · exact ⟨fun ⟨_, h⟩ => (nomatch h), fun h => by omega⟩
  · split
    · rename_i h2
      rw [Bool.and_eq_true, beq_iff_eq, decide_eq_true_eq] at h2
      exact ⟨fun ⟨_, h⟩ => (nomatch h), fun h => absurd h2 h.2⟩
    · rename_i h2
      rw [Bool.and_eq_true, beq_iff_eq, decide_eq_true_eq] at h2
      exact ⟨fun _ => ⟨by omega, h2⟩, fun _ => ⟨_, rfl⟩⟩

theorem forall_mem_ite_singleton {β : Type} {c : Prop} [Decidable c] {x : β} {P : β → Prop} (h : c → P x) :
    ∀ b ∈ (if c then [x] else []), P b := by
  intro b hb
  split at hb
  · cases List.mem_singleton.1 hb; exact h ‹_›
  · cases hb

theorem rank_cutStage (c : List Int) : ∀ b ∈ cutStage c, stageRank b = 0 :=
  List.forall_mem_map.2 fun _ _ => rfl
theorem rank_nextseqStage (o : Opts) : ∀ b ∈ nextseqStage o, stageRank b = 1 := by
  unfold nextseqStage
  split
  · exact List.forall_mem_singleton.2 rfl
  · exact fun _ h => nomatch h
theorem rank_qtrimStage (q : Option (Option (Int × Int))) (base : Int) : ∀ b ∈ qtrimStage q base, stageRank b = 2 := by
  unfold qtrimStage
  split
  · exact List.forall_mem_singleton.2 rfl
  · exact fun _ h => nomatch h
theorem rank_adapterStage (o : Opts) (ads : List Matchable) (first : Bool) : ∀ b ∈ adapterStage o ads first, stageRank b = 3 := by
  unfold adapterStage
  split
  · exact fun _ h => nomatch h
  · split
    · exact List.forall_mem_singleton.2 rfl
    · exact List.forall_mem_singleton.2 rfl
theorem rank_polyAStage (o : Opts) : ∀ b ∈ polyAStage o, stageRank b = 4 :=
  forall_mem_ite_singleton fun _ => rfl
theorem rank_shortenStage (o : Opts) : ∀ b ∈ shortenStage o, stageRank b = 5 := by
  unfold shortenStage
  split
  · exact List.forall_mem_singleton.2 rfl
  · exact fun _ h => nomatch h
theorem rank_trimNStage (o : Opts) : ∀ b ∈ trimNStage o, stageRank b = 6 :=
  forall_mem_ite_singleton fun _ => rfl
theorem rank_lengthTagStage (o : Opts) : ∀ b ∈ lengthTagStage o, stageRank b = 7 := by
  unfold lengthTagStage
  split
  · exact List.forall_mem_singleton.2 rfl
  · exact fun _ h => nomatch h
theorem rank_stripSuffixStage (o : Opts) : ∀ b ∈ stripSuffixStage o, stageRank b = 8 :=
  List.forall_mem_map.2 fun _ _ => rfl
theorem rank_prefixSuffixStage (o : Opts) : ∀ b ∈ prefixSuffixStage o, stageRank b = 9 :=
  forall_mem_ite_singleton fun _ => rfl
theorem rank_zeroCapStage (o : Opts) : ∀ b ∈ zeroCapStage o, stageRank b = 10 :=
  forall_mem_ite_singleton fun _ => rfl
theorem rank_renameStage (o : Opts) : ∀ b ∈ renameStage o, stageRank b = 10 := by
  unfold renameStage
  split
  · exact List.forall_mem_singleton.2 rfl
  · exact fun _ h => nomatch h

/-- the documented composition: every stage is present iff its option is -/
def documentedSingle (o : Opts) (ads : List Matchable) : List SMod :=
  cutStage o.cut ++ nextseqStage o ++ qtrimStage o.qualityCutoff o.qualityBase ++
  adapterStage o ads (cutStage o.cut ++ nextseqStage o ++ qtrimStage o.qualityCutoff o.qualityBase).isEmpty ++
  polyAStage o ++ shortenStage o ++ trimNStage o ++ lengthTagStage o ++ stripSuffixStage o ++ prefixSuffixStage o ++
  zeroCapStage o ++ renameStage o

def stagesSingle (o : Opts) (ads : List Matchable) : List (Nat × List SMod) :=
  [(0, cutStage o.cut), (1, nextseqStage o), (2, qtrimStage o.qualityCutoff o.qualityBase),
   (3, adapterStage o ads (cutStage o.cut ++ nextseqStage o ++ qtrimStage o.qualityCutoff o.qualityBase).isEmpty),
   (4, polyAStage o), (5, shortenStage o), (6, trimNStage o), (7, lengthTagStage o), (8, stripSuffixStage o),
   (9, prefixSuffixStage o), (10, zeroCapStage o), (10, renameStage o)]

theorem documentedSingle_eq_blocks (o : Opts) (ads : List Matchable) :
    documentedSingle o ads = (stagesSingle o ads).flatMap (·.2) := by
  simp only [documentedSingle, stagesSingle, List.flatMap_cons, List.flatMap_nil, List.append_assoc, List.append_nil]

theorem stagesSingle_ranked (o : Opts) (ads : List Matchable) : Ranked stageRank (stagesSingle o ads) := by
  simp only [Ranked, stagesSingle, List.forall_mem_cons]
  exact ⟨rank_cutStage _, rank_nextseqStage o, rank_qtrimStage _ _, rank_adapterStage o ads _, rank_polyAStage o, rank_shortenStage o,
    rank_trimNStage o, rank_lengthTagStage o, rank_stripSuffixStage o, rank_prefixSuffixStage o, rank_zeroCapStage o, rank_renameStage o,
    fun _ h => nomatch h⟩

/-- the option combinations `make_pipeline_from_args` rejects (single-end) -/
def rejectedSingle (o : Opts) (ads : List Matchable) : Bool :=
  o.pairAdapters || ((o.action == .retain || o.action == .crop) && o.times > 1 && !ads.isEmpty) ||
  (o.renameGiven && (!o.pfx.isEmpty || !o.sfx.isEmpty))

/-- Both sides are the same decision tree: the `do` block of `makeModsSingle` unfolds to nested `if`s whose leaves are `throw` or
    the finished list, so once the conditions are variables every branch is `rfl`. -/
theorem makeModsSingle_eq (o : Opts) (ads : List Matchable) :
    makeModsSingle o ads =
      match cutMods o.cut with
      | .error e => .error e
      | .ok _ => if rejectedSingle o ads then .error .cmdline else .ok (documentedSingle o ads) := by
  unfold makeModsSingle
  cases hc : cutMods o.cut with
  | error e => rfl
  | ok cuts =>
    cases cutMods_ok hc
    unfold rejectedSingle documentedSingle
    simp only [bothEndMods_eq, ← qtrimOf_toList, List.append_assoc]
    generalize ((o.action == .retain || o.action == .crop) && decide (o.times > 1) && !ads.isEmpty) = retainCrop
    generalize (o.renameGiven && (!o.pfx.isEmpty || !o.sfx.isEmpty)) = renameAffix
    cases o.pairAdapters
    · cases retainCrop
      · cases renameAffix <;> rfl
      · rfl
    · rfl

theorem eq_documentedSingle_of_ok {o : Opts} {ads : List Matchable} {l : List SMod} (h : makeModsSingle o ads = .ok l) :
    l = documentedSingle o ads := by
  rw [makeModsSingle_eq] at h
  split at h
  · cases h
  · split at h
    · cases h
    · exact (Except.ok.inj h).symm

/-- the R1 quality trimmer: `-q` -/
def qR1 (o : Opts) : Option SMod := qtrimOf o.qualityCutoff o.qualityBase
/-- the R2 quality trimmer: `-Q` if given (`-Q 0`: none), a copy of R1's otherwise -/
def qR2 (o : Opts) : Option SMod :=
  match o.qualityCutoff2 with
  | none => qR1 o
  | some q => qtrimOf (some q) o.qualityBase

def cutterOf (o : Opts) (ads : List Matchable) : Option Cutter := if ads.isEmpty then none else some ⟨ads, o.times, o.action⟩

def adapterStageP (o : Opts) (ads1 ads2 : List Matchable) (first1 first2 : Bool) : List PMod :=
  if o.pairAdapters then [.pairAdapters ads1 ads2 o.action first1 first2]
  else if (cutterOf o ads1).isNone && (cutterOf o ads2).isNone then []
  else if o.revcomp then [.pairedRevcomp (cutterOf o ads1) (cutterOf o ads2) (!o.renameGiven) first1 first2]
  else [.wrap ((cutterOf o ads1).map (fun c => SMod.adapters c first1)) ((cutterOf o ads2).map (fun c => SMod.adapters c first2))]

def shortenStageP (o : Opts) : List PMod :=
  match o.length, o.length2 with
  | some a, some b => [.wrap (some (.shorten a)) (some (.shorten b))]     -- `-l a -L b`
  | some a, none => [.wrap (some (.shorten a)) (some (.shorten a))]       -- `-l a`: both
  | none, some b => [.wrap none (some (.shorten b))]                      -- `-L b`: R2 only
  | none, none => []

def onR1 (m : SMod) : PMod := .wrap (some m) none
def onR2 (m : SMod) : PMod := .wrap none (some m)
def onBoth (m : SMod) : PMod := .wrap (some m) (some m)

def documentedPaired (o : Opts) (ads1 ads2 : List Matchable) : List PMod :=
  (cutStage o.cut).map onR1 ++ (cutStage o.cut2).map onR2 ++
  (nextseqStage o).map onBoth ++
  (if (qR1 o).isSome || (qR2 o).isSome then [.wrap (qR1 o) (qR2 o)] else []) ++
  adapterStageP o ads1 ads2 ((cutStage o.cut).isEmpty && o.nextseqTrim.isNone && (qR1 o).isNone)
    ((cutStage o.cut2).isEmpty && o.nextseqTrim.isNone && (qR2 o).isNone) ++
  (if o.polyA then [.wrap (some (.polyA false)) (some (.polyA true))] else []) ++
  shortenStageP o ++
  (bothEndMods o).map onBoth ++
  (match o.rename with | some t => [.pairedRename t t] | none => [])

def rejectedPaired (o : Opts) (ads1 ads2 : List Matchable) : Bool :=
  (if o.pairAdapters then o.revcomp || ads1.length != ads2.length || ads1.isEmpty
   else (o.action == .retain || o.action == .crop) && o.times > 1 && (!ads1.isEmpty || !ads2.isEmpty)) ||
  (o.renameGiven && (!o.pfx.isEmpty || !o.sfx.isEmpty))

/-- without `--pair-adapters` and `--revcomp`: one wrapped pair of cutters, a cutter for each non-empty adapter list -/
theorem adapterStageP_eq (o : Opts) (ads1 ads2 : List Matchable) (f1 f2 : Bool) (hp : o.pairAdapters = false)
    (hr : o.revcomp = false) (hne : ads1 ≠ [] ∨ ads2 ≠ []) :
    adapterStageP o ads1 ads2 f1 f2 =
      [.wrap (if ads1 = [] then none else some (.adapters ⟨ads1, o.times, o.action⟩ f1))
             (if ads2 = [] then none else some (.adapters ⟨ads2, o.times, o.action⟩ f2))] := by
  unfold adapterStageP cutterOf
  cases ads1 <;> cases ads2 <;> simp_all

/-- the adapter stage of `documentedPaired`; its `first` flags say that no cutter, NextSeq or quality trimmer precedes it on that read -/
theorem adapterStageP_sub_documented (o : Opts) (ads1 ads2 : List Matchable) :
    ∀ b ∈ adapterStageP o ads1 ads2 ((cutStage o.cut).isEmpty && o.nextseqTrim.isNone && (qR1 o).isNone)
      ((cutStage o.cut2).isEmpty && o.nextseqTrim.isNone && (qR2 o).isNone), b ∈ documentedPaired o ads1 ads2 := by
  intro b hb
  -- it is the last of the first five blocks; four more are appended to these
  have h5 := List.mem_append_right ((cutStage o.cut).map onR1 ++ (cutStage o.cut2).map onR2 ++ (nextseqStage o).map onBoth ++
    (if (qR1 o).isSome || (qR2 o).isSome then [.wrap (qR1 o) (qR2 o)] else [])) hb
  exact List.mem_append_left _ (List.mem_append_left _ (List.mem_append_left _ (List.mem_append_left _ h5)))

theorem rank_qtrimOf {q : Option (Option (Int × Int))} {base : Int} {m : SMod} (h : qtrimOf q base = some m) : stageRank m = 2 := by
  unfold qtrimOf at h
  split at h <;> cases h
  rfl

theorem rank_qR2 {o : Opts} {m : SMod} (h : qR2 o = some m) : stageRank m = 2 := by
  unfold qR2 at h
  split at h <;> exact rank_qtrimOf h

theorem pRank_wrap {m1 m2 : Option SMod} {r : Nat} (h1 : ∀ m, m1 = some m → stageRank m = r) (h2 : ∀ m, m2 = some m → stageRank m = r)
    (hne : (m1.isSome || m2.isSome) = true) : pRank (.wrap m1 m2) = r := by
  cases m1 with
  | some m => exact h1 m rfl
  | none =>
    cases m2 with
    | some m => exact h2 m rfl
    | none => cases hne

theorem pRank_map {w : SMod → PMod} (hw : ∀ m, pRank (w m) = stageRank m) {l : List SMod} {r : Nat} (h : ∀ b ∈ l, stageRank b = r) :
    ∀ b ∈ l.map w, pRank b = r :=
  List.forall_mem_map.2 fun m hm => (hw m).trans (h m hm)

theorem rank_adapterStageP (o : Opts) (ads1 ads2 : List Matchable) (f1 f2 : Bool) : ∀ b ∈ adapterStageP o ads1 ads2 f1 f2, pRank b = 3 := by
  intro b hb
  unfold adapterStageP at hb
  split at hb
  · cases List.mem_singleton.1 hb; rfl
  · split at hb
    · cases hb
    · rename_i hnn
      split at hb <;> cases List.mem_singleton.1 hb
      · rfl
      · cases h1 : cutterOf o ads1 with
        | some c => rfl
        | none =>
          cases h2 : cutterOf o ads2 with
          | some c => rfl
          | none => rw [h1, h2] at hnn; exact absurd rfl hnn

theorem rank_shortenStageP (o : Opts) : ∀ b ∈ shortenStageP o, pRank b = 5 := by
  unfold shortenStageP
  split
  case h_4 => exact fun _ h => nomatch h
  -- `-l`, `-L` or both: one `wrap` of `shorten`s
  all_goals exact List.forall_mem_singleton.2 rfl

/-- the both-end modifiers stage by stage, so that every block has one rank -/
def stagesPaired (o : Opts) (ads1 ads2 : List Matchable) : List (Nat × List PMod) :=
  [(0, (cutStage o.cut).map onR1), (0, (cutStage o.cut2).map onR2), (1, (nextseqStage o).map onBoth),
   (2, if (qR1 o).isSome || (qR2 o).isSome then [.wrap (qR1 o) (qR2 o)] else []),
   (3, adapterStageP o ads1 ads2 ((cutStage o.cut).isEmpty && o.nextseqTrim.isNone && (qR1 o).isNone)
     ((cutStage o.cut2).isEmpty && o.nextseqTrim.isNone && (qR2 o).isNone)),
   (4, if o.polyA then [.wrap (some (.polyA false)) (some (.polyA true))] else []),
   (5, shortenStageP o),
   (6, (trimNStage o).map onBoth), (7, (lengthTagStage o).map onBoth), (8, (stripSuffixStage o).map onBoth),
   (9, (prefixSuffixStage o).map onBoth), (10, (zeroCapStage o).map onBoth),
   (10, match o.rename with | some t => [.pairedRename t t] | none => [])]

theorem documentedPaired_eq_blocks (o : Opts) (ads1 ads2 : List Matchable) :
    documentedPaired o ads1 ads2 = (stagesPaired o ads1 ads2).flatMap (·.2) := by
  simp only [documentedPaired, stagesPaired, bothEndMods_eq, List.map_append, List.flatMap_cons, List.flatMap_nil, List.append_assoc,
    List.append_nil]

theorem stagesPaired_ranked (o : Opts) (ads1 ads2 : List Matchable) : Ranked pRank (stagesPaired o ads1 ads2) := by
  have both : ∀ {l : List SMod} {r : Nat}, (∀ b ∈ l, stageRank b = r) → ∀ b ∈ l.map onBoth, pRank b = r :=
    pRank_map fun _ => rfl
  simp only [Ranked, stagesPaired, List.forall_mem_cons]
  refine ⟨pRank_map (fun _ => rfl) (rank_cutStage _), pRank_map (fun _ => rfl) (rank_cutStage _), both (rank_nextseqStage o), ?_,
    rank_adapterStageP o ads1 ads2 _ _, ?_, rank_shortenStageP o, both (rank_trimNStage o), both (rank_lengthTagStage o),
    both (rank_stripSuffixStage o), both (rank_prefixSuffixStage o), both (rank_zeroCapStage o), ?_, fun _ h => nomatch h⟩
  · exact forall_mem_ite_singleton (pRank_wrap (fun _ => rank_qtrimOf) (fun _ => rank_qR2))
  · exact forall_mem_ite_singleton fun _ => rfl
  · split
    · exact List.forall_mem_singleton.2 rfl
    · exact fun _ h => nomatch h

theorem ite_ok {ε α : Type} (c : Prop) [Decidable c] (a b : α) :
    (if c then (Except.ok a : Except ε α) else Except.ok b) = .ok (if c then a else b) := by split <;> rfl

theorem qR2_eq (o : Opts) :
    (if (o.qualityCutoff.isSome && o.qualityCutoff2.isNone) = true then qtrimOf o.qualityCutoff o.qualityBase
      else qtrimOf o.qualityCutoff2 o.qualityBase) = qR2 o := by
  unfold qR2 qR1
  cases h1 : o.qualityCutoff <;> cases h2 : o.qualityCutoff2 <;> simp [qtrimOf]

/-- As for `makeModsSingle_eq`. The conditions are made variables once; a branch that ends in `throw` is closed before the
    conditions that only shape the list are split (a `rfl` that fails on these terms is very slow, so none is tried). -/
theorem makeModsPaired_eq (o : Opts) (ads1 ads2 : List Matchable) :
    makeModsPaired o ads1 ads2 =
      match cutMods o.cut, cutMods o.cut2 with
      | .error e, _ => .error e
      | .ok _, .error e => .error e
      | .ok _, .ok _ => if rejectedPaired o ads1 ads2 then .error .cmdline else .ok (documentedPaired o ads1 ads2) := by
  unfold makeModsPaired
  cases hc : cutMods o.cut with
  | error e => rfl
  | ok c1 =>
    cases hc2 : cutMods o.cut2 with
    | error e => rfl
    | ok c2 =>
      cases cutMods_ok hc
      cases cutMods_ok hc2
      unfold rejectedPaired documentedPaired adapterStageP cutterOf shortenStageP qR1 nextseqStage
      simp only [← qR2_eq]
      generalize (o.renameGiven && (!o.pfx.isEmpty || !o.sfx.isEmpty)) = renameAffix
      generalize ((o.action == Action.retain || o.action == Action.crop) && decide (o.times > 1)) = retainCrop
      generalize (ads1.length != ads2.length) = unequal
      generalize ads1.isEmpty = e1
      generalize ads2.isEmpty = e2
      generalize o.revcomp = rc
      cases o.pairAdapters
      · cases retainCrop
        · cases renameAffix
          · cases o.nextseqTrim <;> cases e1 <;> cases e2 <;> cases rc <;> rfl
          · cases e1 <;> cases e2 <;> cases rc <;> rfl
        · cases e1 <;> cases e2
          · rfl
          · rfl
          · rfl
          · cases renameAffix
            · cases o.nextseqTrim <;> cases rc <;> rfl
            · cases rc <;> rfl
      · cases rc
        · cases unequal
          · cases e1
            · cases renameAffix
              · cases o.nextseqTrim <;> rfl
              · rfl
            · rfl
          · rfl
        · rfl

theorem eq_documentedPaired_of_ok {o : Opts} {ads1 ads2 : List Matchable} {l : List PMod} (h : makeModsPaired o ads1 ads2 = .ok l) :
    l = documentedPaired o ads1 ads2 := by
  rw [makeModsPaired_eq] at h
  split at h
  · cases h
  · cases h
  · split at h
    · cases h
    · exact (Except.ok.inj h).symm

end Cutadapt
