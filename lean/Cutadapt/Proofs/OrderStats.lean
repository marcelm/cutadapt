import Cutadapt.Proofs.Counts
/-! The sum of a counter table; per-adapter statistics (`adapterStats`) as a tally of the applied matches: helper lemmas for C20. -/
namespace Cutadapt
open Cutadapt.Adapters

section Incr
variable {κ : Type} [BEq κ] [LawfulBEq κ]

omit [LawfulBEq κ] in
theorem getCount_nil (k : κ) : getCount k ([] : List (κ × Nat)) = 0 := rfl

/-- sum of all counters -/
def total (l : List (κ × Nat)) : Nat := (l.map (·.2)).sum

omit [LawfulBEq κ] in
theorem total_incr (k : κ) (n : Nat) (l : List (κ × Nat)) : total (incr k n l) = total l + n := sum_incr k n l

theorem total_eq_sum_getCount (l : List (κ × Nat)) (h : (l.map (·.1)).Nodup) :
    total l = ((l.map (·.1)).map (fun k => getCount k l)).sum := by
  induction l with
  | nil => simp [total]
  | cons p rest ih =>
    obtain ⟨k, v⟩ := p
    rw [List.map_cons, List.nodup_cons] at h
    have hrest : ∀ k' ∈ rest.map (·.1), getCount k' ((k, v) :: rest) = getCount k' rest := fun k' hk' => by
      rw [getCount_cons, if_neg fun e : (k == k') = true => h.1 (eq_of_beq e ▸ hk')]
    rw [List.map_cons, List.map_cons, List.sum_cons, getCount_cons, if_pos (beq_self_eq_true k), List.map_congr_left hrest, ← ih h.2]
    rfl

section
variable {α : Type} (f : α → κ)

omit [LawfulBEq κ] in
theorem total_foldl_incr (xs : List α) (l : List (κ × Nat)) :
    total (xs.foldl (fun l x => incr (f x) 1 l) l) = total l + xs.length := by
  induction xs generalizing l with
  | nil => rfl
  | cons x xs ih => rw [List.foldl_cons, ih, total_incr, List.length_cons, Nat.add_assoc, Nat.add_comm 1]

end

end Incr

/-- the applied matches of adapter `a` on read side `side`, in order, with the reverse-complement flag -/
def appliedTo (side a : Nat) (evs : List Event) : List (AnyMatch × Bool) :=
  evs.filterMap fun ev =>
    match ev with
    | .matched s m rc => if s == side && m.adapter == a then some (m, rc) else none
    | _ => none

/-- 5' part(s) of an applied match: a single match of a 5' adapter class, a `before` match of an anywhere adapter,
    the front part of a linked match -/
def frontParts (fc aw : Bool) : AnyMatch → List MatchRec
  | .single _ r => if aw then (if r.m.before then [r] else []) else if fc then [r] else []
  | .linked _ f _ => f.toList

/-- 3' part(s) of an applied match -/
def backParts (fc aw : Bool) : AnyMatch → List MatchRec
  | .single _ r => if aw then (if r.m.before then [] else [r]) else if fc then [] else [r]
  | .linked _ _ b => b.toList

def errKey (r : MatchRec) : Nat × Nat := (r.removedSequenceLength, r.m.errors)

def tallyFold (fc aw : Bool) (st : AdapterStats) (ms : List (AnyMatch × Bool)) : AdapterStats :=
  ms.foldl (fun st p => st.addMatch fc aw p.1 p.2) st

theorem tallyFold_append (fc aw : Bool) (st : AdapterStats) (ms ms' : List (AnyMatch × Bool)) :
    tallyFold fc aw st (ms ++ ms') = tallyFold fc aw (tallyFold fc aw st ms) ms' :=
  List.foldl_append

theorem countP_single {α} (p : α → Bool) (x : α) : [x].countP p = if p x then 1 else 0 := by
  by_cases h : p x <;> simp [h]

theorem appliedTo_append (side a : Nat) (evs evs' : List Event) :
    appliedTo side a (evs ++ evs') = appliedTo side a evs ++ appliedTo side a evs' :=
  List.filterMap_append

theorem foldl_addFront (rs : List MatchRec) (e : EndStats) :
    rs.foldl EndStats.addFront e = { errors := rs.foldl (fun l r => incr (errKey r) 1 l) e.errors, adjacent := e.adjacent } := by
  induction rs generalizing e with
  | nil => rfl
  | cons r rs ih => rw [List.foldl_cons, ih]; rfl

theorem foldl_addBack (rs : List MatchRec) (e : EndStats) :
    rs.foldl EndStats.addBack e =
      { errors := rs.foldl (fun l r => incr (errKey r) 1 l) e.errors,
        adjacent := rs.foldl (fun l r => incr (adjKey r.adjacentBase) 1 l) e.adjacent } := by
  induction rs generalizing e with
  | nil => rfl
  | cons r rs ih => rw [List.foldl_cons, ih]; rfl

/-- `add_match` books the 5' parts of the match on the front statistics and the 3' parts on the back statistics -/
theorem addMatch_eq (st : AdapterStats) (fc aw : Bool) (m : AnyMatch) (rc : Bool) :
    st.addMatch fc aw m rc =
      { front := (frontParts fc aw m).foldl EndStats.addFront st.front,
        back := (backParts fc aw m).foldl EndStats.addBack st.back,
        reverseComplemented := st.reverseComplemented + (if rc then 1 else 0) } := by
  cases m with
  | single a r =>
    dsimp only [AdapterStats.addMatch, frontParts, backParts]
    cases aw <;> cases fc <;> cases r.m.before <;> rfl
  | linked a f b => cases f <;> cases b <;> rfl

theorem tallyFold_eq (fc aw : Bool) (ms : List (AnyMatch × Bool)) (st : AdapterStats) :
    tallyFold fc aw st ms =
      { front := (ms.flatMap fun p => frontParts fc aw p.1).foldl EndStats.addFront st.front,
        back := (ms.flatMap fun p => backParts fc aw p.1).foldl EndStats.addBack st.back,
        reverseComplemented := st.reverseComplemented + ms.countP (·.2) } := by
  induction ms generalizing st with
  | nil => rfl
  | cons p ms ih =>
    rw [tallyFold, List.foldl_cons, ← tallyFold, ih, addMatch_eq]
    simp only [List.flatMap_cons, List.foldl_append, List.countP_cons, Nat.add_assoc, Nat.add_comm (List.countP _ ms)]

def statStep (ads : List Matchable) (side : Nat) (acc : List AdapterStats) (ev : Event) : List AdapterStats :=
  match ev with
  | .matched s m rc =>
    if s == side then
      acc.mapIdx (fun i st => if i == m.adapter then
        st.addMatch ((ads[i]?.map isFrontClass).getD false) ((ads[i]?.map isAnywhereClass).getD false) m rc else st)
    else acc
  | _ => acc

theorem adapterStats_eq (ads : List Matchable) (side : Nat) (evs : List Event) :
    adapterStats ads side evs = evs.foldl (statStep ads side) (ads.map (fun _ => {})) := rfl

theorem statStep_at (ads : List Matchable) (side a : Nat) (acc : List AdapterStats) (ev : Event) :
    (statStep ads side acc ev)[a]? =
      acc[a]?.map fun st => tallyFold ((ads[a]?.map isFrontClass).getD false) ((ads[a]?.map isAnywhereClass).getD false) st
        (appliedTo side a [ev]) := by
  cases ev with
  | matched s m rc =>
    simp only [statStep, appliedTo, List.filterMap_cons, List.filterMap_nil]
    cases s == side
    · exact Option.map_id'.symm
    · rw [if_pos rfl, List.getElem?_mapIdx, Bool.true_and]
      by_cases h : a = m.adapter
      · subst h; simp only [beq_self_eq_true, if_true]; rfl
      · rw [beq_eq_false_iff_ne.mpr h, beq_eq_false_iff_ne.mpr (Ne.symm h)]; rfl
  | _ => exact Option.map_id'.symm

theorem statFold_at (ads : List Matchable) (side a : Nat) (evs : List Event) (acc : List AdapterStats) :
    (evs.foldl (statStep ads side) acc)[a]? =
      acc[a]?.map (fun st => tallyFold ((ads[a]?.map isFrontClass).getD false) ((ads[a]?.map isAnywhereClass).getD false) st
        (appliedTo side a evs)) := by
  induction evs generalizing acc with
  | nil => exact Option.map_id'.symm
  | cons ev evs ih =>
    rw [List.foldl_cons, ih, statStep_at, Option.map_map]
    -- tallying the matches of `ev` and then those of `evs` is tallying those of `ev :: evs`
    refine congrArg (Option.map · _) (funext fun st => ?_)
    rw [Function.comp_apply, ← tallyFold_append, ← appliedTo_append]
    rfl

theorem adapterStats_at (ads : List Matchable) (side a : Nat) (evs : List Event) (ad : Matchable) (h : ads[a]? = some ad) :
    (adapterStats ads side evs)[a]? = some (tallyFold (isFrontClass ad) (isAnywhereClass ad) {} (appliedTo side a evs)) := by
  rw [adapterStats_eq, statFold_at]
  simp [h]

theorem statStep_length (ads : List Matchable) (side : Nat) (acc : List AdapterStats) (ev : Event) :
    (statStep ads side acc ev).length = acc.length := by
  cases ev with
  | matched s m rc =>
    simp only [statStep]
    split
    · exact List.length_mapIdx
    · rfl
  | _ => rfl

end Cutadapt
