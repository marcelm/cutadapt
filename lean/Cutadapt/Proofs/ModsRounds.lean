import Cutadapt.Proofs.ModsSeg
/-! The rounds of `match_and_trim`, the parts of (linked) matches, and `remainder(matches)`. Core Lean only. -/
namespace Cutadapt
open Cutadapt.Adapters Cutadapt.Qualtrim

/-- the read after removing the matches one after the other -/
def trimAll (rd : Read) (ms : List AnyMatch) : Read := ms.foldl (fun r m => m.trimmed r) rd

@[simp] theorem trimAll_nil (rd : Read) : trimAll rd [] = rd := rfl
@[simp] theorem trimAll_cons (rd : Read) (m : AnyMatch) (ms : List AnyMatch) :
    trimAll rd (m :: ms) = trimAll (m.trimmed rd) ms := rfl

theorem trimAll_append (rd : Read) (ms ns : List AnyMatch) : trimAll rd (ms ++ ns) = trimAll (trimAll rd ms) ns := by
  simp [trimAll, List.foldl_append]

theorem trimAll_sameSeg (rd : Read) (ms : List AnyMatch) : SameSeg rd (trimAll rd ms) := by
  induction ms generalizing rd with
  | nil => exact SameSeg.refl rd
  | cons m ms ih => exact (m.trimmed_sameSeg rd).trans (ih _)

theorem trimAll_name (rd : Read) (ms : List AnyMatch) : (trimAll rd ms).name = rd.name := by
  induction ms generalizing rd with
  | nil => rfl
  | cons m ms ih => rw [trimAll_cons, ih, AnyMatch.trimmed_name]

theorem rounds_acc (ads : List Matchable) (t : Nat) (rd : Read) (acc : List AnyMatch) :
    rounds ads t rd acc = ((rounds ads t rd []).1, acc.reverse ++ (rounds ads t rd []).2) := by
  induction t generalizing rd acc with
  | zero => simp [rounds]
  | succ t ih =>
    unfold rounds
    cases h : bestMatch ads rd.seq with
    | none => simp
    | some m =>
      simp only
      rw [ih (m.trimmed rd) (m :: acc), ih (m.trimmed rd) [m]]
      simp

theorem rounds_zero (ads : List Matchable) (rd : Read) : rounds ads 0 rd [] = (rd, []) := rfl

theorem rounds_succ_none (ads : List Matchable) (t : Nat) (rd : Read) (h : bestMatch ads rd.seq = none) :
    rounds ads (t+1) rd [] = (rd, []) := by
  unfold rounds
  rw [h]
  rfl

theorem rounds_succ_some (ads : List Matchable) (t : Nat) (rd : Read) (m : AnyMatch)
    (h : bestMatch ads rd.seq = some m) :
    rounds ads (t+1) rd [] = ((rounds ads t (m.trimmed rd) []).1, m :: (rounds ads t (m.trimmed rd) []).2) := by
  conv =>
    lhs
    unfold rounds
  rw [h]
  simp only
  rw [rounds_acc]
  rfl

/-- **The loop of `match_and_trim`.** At most `t` matches; the result is the read with all matches removed in turn;
    match number `k+1` is the best match on what matches `1..k` left; the loop ends early only at a round without match. -/
theorem rounds_spec' (ads : List Matchable) (t : Nat) (read : Read) :
    (rounds ads t read []).2.length ≤ t ∧
    (rounds ads t read []).1 = trimAll read (rounds ads t read []).2 ∧
    (∀ k (h : k < (rounds ads t read []).2.length),
        bestMatch ads (trimAll read ((rounds ads t read []).2.take k)).seq = some (rounds ads t read []).2[k]) ∧
    ((rounds ads t read []).2.length < t → bestMatch ads (rounds ads t read []).1.seq = none) := by
  induction t generalizing read with
  | zero => simp [rounds_zero]
  | succ t ih =>
    cases h : bestMatch ads read.seq with
    | none =>
      rw [rounds_succ_none _ _ _ h]
      simp [h]
    | some m =>
      rw [rounds_succ_some _ _ _ _ h]
      obtain ⟨h1, h2, h3, h4⟩ := ih (m.trimmed read)
      refine ⟨by simp; omega, by simpa using h2, ?_, ?_⟩
      · intro k hk
        cases k with
        | zero => simpa using h
        | succ k =>
          simp only [List.length_cons] at hk
          simpa using h3 k (by omega)
      · intro hlt
        simp only [List.length_cons] at hlt
        exact h4 (by omega)

theorem rounds_nil_read {ads : List Matchable} {t : Nat} {read : Read} (h : (rounds ads t read []).2 = []) :
    (rounds ads t read []).1 = read := by
  have := (rounds_spec' ads t read).2.1
  rw [this, h]
  rfl

/-- the single matches a match consists of, in the order they were found -/
def AnyMatch.parts : AnyMatch → List MatchRec
  | .single _ r => [r]
  | .linked _ f b => f.toList ++ b.toList

/-- coordinates lie inside the string the match was found in (soundness of the aligner, C01) -/
def MatchRec.InBounds (r : MatchRec) : Prop := r.m.rstart ≤ r.m.rstop ∧ r.m.rstop ≤ r.sequence.length

def trimParts (rd : Read) (ps : List MatchRec) : Read := ps.foldl (fun r p => p.trimmed r) rd

@[simp] theorem trimParts_nil (rd : Read) : trimParts rd [] = rd := rfl
@[simp] theorem trimParts_cons (rd : Read) (p : MatchRec) (ps : List MatchRec) :
    trimParts rd (p :: ps) = trimParts (p.trimmed rd) ps := rfl
theorem trimParts_append (rd : Read) (ps qs : List MatchRec) :
    trimParts rd (ps ++ qs) = trimParts (trimParts rd ps) qs := by
  simp [trimParts, List.foldl_append]

theorem AnyMatch.trimmed_eq_parts (m : AnyMatch) (rd : Read) : m.trimmed rd = trimParts rd m.parts := by
  cases m with
  | single _ r => rfl
  | linked _ f b => cases f <;> cases b <;> rfl

theorem trimAll_eq_parts (rd : Read) (ms : List AnyMatch) : trimAll rd ms = trimParts rd (ms.flatMap AnyMatch.parts) := by
  induction ms generalizing rd with
  | nil => rfl
  | cons m ms ih => rw [trimAll_cons, List.flatMap_cons, trimParts_append, ih, AnyMatch.trimmed_eq_parts]

/-- every part was found in exactly what the previous parts left -/
def PartChain : Read → List MatchRec → Prop
  | _, [] => True
  | rd, p :: ps => p.sequence = rd.seq ∧ PartChain (p.trimmed rd) ps

theorem partChain_append (rd : Read) (ps qs : List MatchRec) :
    PartChain rd (ps ++ qs) ↔ PartChain rd ps ∧ PartChain (trimParts rd ps) qs := by
  induction ps generalizing rd with
  | nil => simp [PartChain]
  | cons p ps ih => simp [PartChain, ih, and_assoc]

/-- every match was found in what the previous matches left (linked matches: front part first) -/
def MatchChain (rd : Read) (ms : List AnyMatch) : Prop := PartChain rd (ms.flatMap AnyMatch.parts)

theorem matchChain_cons (rd : Read) (m : AnyMatch) (ms : List AnyMatch) :
    MatchChain rd (m :: ms) ↔ PartChain rd m.parts ∧ MatchChain (m.trimmed rd) ms := by
  unfold MatchChain
  rw [List.flatMap_cons, partChain_append, AnyMatch.trimmed_eq_parts]

/-- `remainder(matches)` and `remainderOf` are this function, of `AnyMatch.remainderInterval` and
    `MatchRec.remainderInterval` -/
def remOf (ι : α → Nat × Nat) (l : List α) : Nat × Nat :=
  match l.getLast? with
  | none => (0, 0)
  | some x => ((l.map (fun m => (ι m).1)).sum, (l.map (fun m => (ι m).1)).sum + ((ι x).2 - (ι x).1))

theorem remainder_eq_remOf (ms : List AnyMatch) : remainder ms = remOf AnyMatch.remainderInterval ms := by
  unfold remainder remOf
  cases ms.getLast? <;> rfl
theorem remainderOf_eq_remOf (ps : List MatchRec) : AnyMatch.remainderOf ps = remOf MatchRec.remainderInterval ps := by
  unfold AnyMatch.remainderOf remOf
  cases ps.getLast? <;> rfl

theorem remOf_single (ι : α → Nat × Nat) (x : α) : remOf ι [x] = ((ι x).1, (ι x).1 + ((ι x).2 - (ι x).1)) := by
  simp [remOf]

theorem remOf_cons (ι : α → Nat × Nat) (x : α) (l : List α) (h : l ≠ []) :
    remOf ι (x :: l) = ((ι x).1 + (remOf ι l).1, (ι x).1 + (remOf ι l).2) := by
  obtain ⟨y, l, rfl⟩ := List.exists_cons_of_ne_nil h
  unfold remOf
  rw [List.getLast?_cons_cons]
  cases hl : (y :: l).getLast? with
  | none => simp at hl
  | some z =>
    simp only [List.map_cons, List.sum_cons, Prod.mk.injEq, true_and]
    omega

theorem remOf_fst (ι : α → Nat × Nat) (l : List α) : (remOf ι l).1 = (l.map (fun m => (ι m).1)).sum := by
  unfold remOf
  cases h : l.getLast? with
  | none =>
    rw [List.getLast?_eq_none_iff.mp h]
    rfl
  | some x => rfl

theorem remOf_fst_le (ι : α → Nat × Nat) (l : List α) : (remOf ι l).1 ≤ (remOf ι l).2 := by
  unfold remOf
  cases l.getLast? with
  | none => exact Nat.le_refl 0
  | some x => exact Nat.le_add_right _ _

theorem remOf_append (ι : α → Nat × Nat) (l l' : List α) (h : l' ≠ []) :
    remOf ι (l ++ l') = ((remOf ι l).1 + (remOf ι l').1, (remOf ι l).1 + (remOf ι l').2) := by
  induction l with
  | nil =>
    rw [remOf_fst]
    simp
  | cons x l ih =>
    rw [List.cons_append, remOf_cons _ _ _ (List.append_ne_nil_of_right_ne_nil _ h), ih, remOf_fst ι (x :: l), remOf_fst ι l,
      List.map_cons, List.sum_cons, Nat.add_assoc, Nat.add_assoc]

theorem remainderOf_single (p : MatchRec) :
    AnyMatch.remainderOf [p] = (p.remainderInterval.1, p.remainderInterval.1 + (p.remainderInterval.2 - p.remainderInterval.1)) := by
  rw [remainderOf_eq_remOf, remOf_single]

theorem remainderOf_cons (p : MatchRec) (ps : List MatchRec) (h : ps ≠ []) :
    AnyMatch.remainderOf (p :: ps) =
      (p.remainderInterval.1 + (AnyMatch.remainderOf ps).1, p.remainderInterval.1 + (AnyMatch.remainderOf ps).2) := by
  rw [remainderOf_eq_remOf, remainderOf_eq_remOf, remOf_cons _ _ _ h]

theorem remainder_single (m : AnyMatch) :
    remainder [m] = (m.remainderInterval.1, m.remainderInterval.1 + (m.remainderInterval.2 - m.remainderInterval.1)) := by
  rw [remainder_eq_remOf, remOf_single]

theorem remainder_cons (m : AnyMatch) (ms : List AnyMatch) (h : ms ≠ []) :
    remainder (m :: ms) = (m.remainderInterval.1 + (remainder ms).1, m.remainderInterval.1 + (remainder ms).2) := by
  rw [remainder_eq_remOf, remainder_eq_remOf, remOf_cons _ _ _ h]

/-- the interval of a match is `remOf` of its parts -/
theorem AnyMatch.remOf_parts (m : AnyMatch) :
    remOf MatchRec.remainderInterval m.parts =
      (m.remainderInterval.1, m.remainderInterval.1 + (m.remainderInterval.2 - m.remainderInterval.1)) := by
  cases m with
  | single _ r => exact remOf_single _ r
  | linked idx f b =>
    -- the interval of a linked match is by definition `remainderOf` of its parts
    have e : (AnyMatch.linked idx f b).remainderInterval = remOf MatchRec.remainderInterval (f.toList ++ b.toList) :=
      remainderOf_eq_remOf _
    rw [e, Nat.add_sub_cancel' (remOf_fst_le _ _)]
    rfl

/-- `remainder(matches)` is `remainder` of the flattened list of parts (every match has at least one part) -/
theorem remainder_eq_parts (ms : List AnyMatch) (h : ∀ m ∈ ms, m.parts ≠ []) :
    remainder ms = AnyMatch.remainderOf (ms.flatMap AnyMatch.parts) := by
  rw [remainder_eq_remOf, remainderOf_eq_remOf]
  induction ms with
  | nil => rfl
  | cons m ms ih =>
    have hm := m.remOf_parts
    have ih := ih fun x hx => h x (List.mem_cons_of_mem _ hx)
    cases ms with
    | nil => rw [remOf_single, List.flatMap_cons, List.flatMap_nil, List.append_nil, hm]
    | cons m' ms' =>
      have hne : (m' :: ms').flatMap AnyMatch.parts ≠ [] := by
        rw [List.flatMap_cons]; exact List.append_ne_nil_of_left_ne_nil (h m' (by simp)) _
      rw [List.flatMap_cons, remOf_append _ _ _ hne, hm, remOf_cons _ _ _ (List.cons_ne_nil _ _), ih]

/-- `r'` is the slice `[a, b)` of `rd`, `a ≤ b ≤ len(rd)`; the qualities follow when they are as long as the sequence -/
structure IsSub (rd r' : Read) (a b : Nat) : Prop where
  seq : r'.seq = seg rd.seq a b
  qual : QualOK rd → r'.qual = rd.qual.map (seg · a b)
  le : a ≤ b
  le_len : b ≤ rd.len

theorem IsSub.len {rd r' : Read} {a b : Nat} (h : IsSub rd r' a b) : r'.len = b - a := by
  rw [Read.len, h.seq, seg_length' _ _ _ h.le_len]

theorem IsSub.trans {rd r r' : Read} {a b c d : Nat} (h1 : IsSub rd r a b) (h2 : IsSub r r' c d) :
    IsSub rd r' (a + c) (a + d) := by
  have hb : a + d ≤ b := Nat.add_le_of_le_sub' h1.le (h1.len ▸ h2.le_len)
  have hd : min b (a + d) = a + d := Nat.min_eq_right hb
  refine ⟨?_, fun hq => ?_, Nat.add_le_add_left h2.le a, Nat.le_trans hb h1.le_len⟩
  · rw [h2.seq, h1.seq, seg_seg, hd]
  · have hq' : QualOK r := SameSeg.qualOK ⟨a, b, h1.seq, h1.qual hq⟩ hq
    rw [h2.qual hq', h1.qual hq, Option.map_map]
    congr 1
    funext x
    simp only [Function.comp, seg_seg, hd]

theorem IsSub.eq_sub {rd r' : Read} {a b : Nat} (h : IsSub rd r' a b) (hn : r'.name = rd.name) (hq : QualOK rd) :
    r' = rd.sub a b := by
  obtain ⟨n, s, q⟩ := r'
  show Read.mk n s q = ⟨rd.name, seg rd.seq a b, rd.qual.map (seg · a b)⟩
  rw [show n = rd.name from hn, show s = _ from h.seq, show q = _ from h.qual hq]

theorem MatchRec.trimmed_isSub (p : MatchRec) (rd : Read) (hs : p.sequence = rd.seq) (hb : p.InBounds) :
    IsSub rd (p.trimmed rd) p.remainderInterval.1 p.remainderInterval.2 := by
  obtain ⟨hb1, hb2⟩ := hb
  unfold MatchRec.trimmed MatchRec.remainderInterval SingleMatch.remainderInterval
  rw [hs] at hb2 ⊢
  by_cases hbf : p.m.before
  · simp only [hbf, if_true, Read.dropFront]
    refine ⟨by rw [seg_of_length_le _ _ _ (Nat.le_refl _)], ?_, hb2, Nat.le_refl _⟩
    intro hq
    cases hr : rd.qual with
    | none => rfl
    | some q => simp [seg_of_length_le, hq q hr]
  · simp only [hbf, Bool.false_eq_true, if_false, Read.takeFront]
    refine ⟨by rw [seg_zero], ?_, Nat.zero_le _, Nat.le_trans hb1 hb2⟩
    intro _
    congr 1

theorem partChain_remainder {rd : Read} {ps : List MatchRec} (hne : ps ≠ []) (hc : PartChain rd ps)
    (hb : ∀ p ∈ ps, p.InBounds) :
    IsSub rd (trimParts rd ps) (AnyMatch.remainderOf ps).1 (AnyMatch.remainderOf ps).2 := by
  induction ps generalizing rd with
  | nil => exact absurd rfl hne
  | cons p ps ih =>
    have t := p.trimmed_isSub rd hc.1 (hb p List.mem_cons_self)
    cases ps with
    | nil =>
      rw [remainderOf_single, Nat.add_sub_cancel' t.le]
      exact t
    | cons q qs =>
      rw [remainderOf_cons _ _ (List.cons_ne_nil _ _)]
      exact t.trans (ih (List.cons_ne_nil _ _) hc.2 (fun x hx => hb x (List.mem_cons_of_mem _ hx)))

/-- **`remainder(matches)` is what the trim action keeps.** For matches each found in what the previous ones left
    (as `rounds` produces them), with in-bounds coordinates: removing them one after the other leaves
    `read[start:stop]` for `(start, stop) = remainder(matches)`, and `start ≤ stop ≤ len(read)`. -/
theorem remainder_correct' {read : Read} {ms : List AnyMatch} (hne : ms ≠ []) (hp : ∀ m ∈ ms, m.parts ≠ [])
    (hc : MatchChain read ms) (hb : ∀ m ∈ ms, ∀ p ∈ m.parts, p.InBounds) :
    IsSub read (trimAll read ms) (remainder ms).1 (remainder ms).2 := by
  have hne' : ms.flatMap AnyMatch.parts ≠ [] := by
    obtain ⟨m, ms, rfl⟩ := List.exists_cons_of_ne_nil hne
    simp [List.flatMap_cons, hp m List.mem_cons_self]
  have hb' : ∀ p ∈ ms.flatMap AnyMatch.parts, p.InBounds := by
    intro p hp'
    obtain ⟨m, hm, hpm⟩ := List.mem_flatMap.mp hp'
    exact hb m hm p hpm
  rw [remainder_eq_parts ms hp, trimAll_eq_parts]
  exact partChain_remainder hne' hc hb'

theorem MatchRec.trimmed_seq (p : MatchRec) (rd : Read) : (p.trimmed rd).seq = p.m.trimmed rd.seq := by
  unfold MatchRec.trimmed SingleMatch.trimmed
  split <;> rfl

/-- `LinkedAdapter.match_to`: the front adapter is matched to the string, the back adapter to what the front match
    leaves of it (to the whole string without front match); at least one of the two is there -/
theorem Matchable.matchTo_linked {f b : Adapter} {fr br : Bool} {nm : String} {idx : Nat} {s : Bytes} {m : AnyMatch}
    (h : (Matchable.linked f b fr br nm).matchTo idx s = some m) :
    ∃ fm bm s', Adapters.matchTo f s = fm ∧ s' = (match fm with | some x => x.trimmed s | none => s) ∧
      Adapters.matchTo b s' = bm ∧ m = .linked idx (fm.map (⟨·, s⟩)) (bm.map (⟨·, s'⟩)) ∧ (fm = none → bm ≠ none) := by
  refine ⟨_, _, _, rfl, rfl, rfl, ?_⟩
  simp only [Matchable.matchTo] at h
  simp only [SingleMatch.trimmed]
  generalize Adapters.matchTo f s = fm at h ⊢
  generalize Adapters.matchTo b _ = bm at h ⊢
  by_cases c1 : (fr && fm.isNone) = true
  · rw [if_pos c1] at h
    cases h
  · rw [if_neg c1] at h
    by_cases c2 : (bm.isNone && (br || fm.isNone)) = true
    · rw [if_pos c2] at h
      cases h
    · rw [if_neg c2] at h
      exact ⟨(Option.some.inj h).symm, fun hf hb => c2 (by simp [hf, hb])⟩

/-- a match returned by `match_to` consists of at least one part, and each part carries the string it was found in -/
theorem Matchable.matchTo_parts (a : Matchable) (idx : Nat) (rd : Read) (m : AnyMatch)
    (h : a.matchTo idx rd.seq = some m) : m.parts ≠ [] ∧ PartChain rd m.parts := by
  cases a with
  | single ad =>
    obtain ⟨sm, _, rfl⟩ := Option.map_eq_some_iff.mp h
    exact ⟨List.cons_ne_nil _ _, rfl, trivial⟩
  | indexed ix ids =>
    obtain ⟨im, _, rfl⟩ := Option.map_eq_some_iff.mp h
    exact ⟨List.cons_ne_nil _ _, rfl, trivial⟩
  | linked f b fr br nm =>
    obtain ⟨fm, bm, s', _, rfl, _, rfl, hne⟩ := Matchable.matchTo_linked h
    cases fm with
    | none =>
      cases bm with
      | none => exact absurd rfl (hne rfl)
      | some y => exact ⟨List.cons_ne_nil _ _, rfl, trivial⟩
    | some x =>
      cases bm with
      | none => exact ⟨List.cons_ne_nil _ _, rfl, trivial⟩
      | some y => exact ⟨List.cons_ne_nil _ _, rfl, (MatchRec.trimmed_seq ⟨x, rd.seq⟩ rd).symm, trivial⟩

theorem bestMatchGo_cons (s : Bytes) (a : Matchable) (as : List Matchable) (i : Nat) (best : Option AnyMatch) :
    ∃ b, bestMatchGo s (a :: as) i best = bestMatchGo s as (i+1) b ∧ (b = best ∨ b = a.matchTo i s) := by
  simp only [bestMatchGo]
  cases a.matchTo i s with
  | none => exact ⟨best, rfl, .inl rfl⟩
  | some m =>
    cases best with
    | none => exact ⟨_, rfl, .inr rfl⟩
    | some b => exact ⟨_, rfl, by split <;> simp⟩

theorem bestMatchGo_mem (s : Bytes) (ads : List Matchable) (i : Nat) (best : Option AnyMatch) (m : AnyMatch)
    (h : bestMatchGo s ads i best = some m) :
    best = some m ∨ ∃ a ∈ ads, ∃ j, a.matchTo j s = some m := by
  induction ads generalizing i best with
  | nil => exact Or.inl h
  | cons a as ih =>
    obtain ⟨b, e, hb⟩ := bestMatchGo_cons s a as i best
    rw [e] at h
    rcases ih _ _ h with h' | ⟨a', ha', j, hj⟩
    · rcases hb with rfl | rfl
      · exact .inl h'
      · exact .inr ⟨a, List.mem_cons_self, i, h'⟩
    · exact .inr ⟨a', List.mem_cons_of_mem _ ha', j, hj⟩

/-- `MultipleAdapters.match_to` returns a match of one of its adapters -/
theorem bestMatch_mem {ads : List Matchable} {s : Bytes} {m : AnyMatch} (h : bestMatch ads s = some m) :
    ∃ a ∈ ads, ∃ j, a.matchTo j s = some m := by
  rcases bestMatchGo_mem s ads 0 none m h with h' | h'
  · exact absurd h' (by simp)
  · exact h'

/-- the coordinates of every match of every adapter lie inside the string searched (C01's soundness, as a hypothesis
    on the adapter list) -/
def AdaptersInBounds (ads : List Matchable) : Prop :=
  ∀ a ∈ ads, ∀ j s m, a.matchTo j s = some m → ∀ p ∈ m.parts, p.InBounds

theorem rounds_chain (ads : List Matchable) (t : Nat) (read : Read) :
    (∀ m ∈ (rounds ads t read []).2, m.parts ≠ []) ∧ MatchChain read (rounds ads t read []).2 ∧
    (AdaptersInBounds ads → ∀ m ∈ (rounds ads t read []).2, ∀ p ∈ m.parts, p.InBounds) := by
  induction t generalizing read with
  | zero => simp [rounds_zero, MatchChain, PartChain]
  | succ t ih =>
    cases h : bestMatch ads read.seq with
    | none => simp [rounds_succ_none _ _ _ h, MatchChain, PartChain]
    | some m =>
      rw [rounds_succ_some _ _ _ _ h]
      obtain ⟨a, ha, j, hj⟩ := bestMatch_mem h
      obtain ⟨p1, p2⟩ := a.matchTo_parts j read m hj
      obtain ⟨i1, i2, i3⟩ := ih (m.trimmed read)
      refine ⟨?_, ?_, ?_⟩
      · intro x hx
        rcases List.mem_cons.mp hx with e | e
        · rw [e]
          exact p1
        · exact i1 x e
      · rw [matchChain_cons]
        exact ⟨p2, i2⟩
      · intro hab x hx
        rcases List.mem_cons.mp hx with e | e
        · rw [e]
          exact hab a ha j _ m hj
        · exact i3 hab x e

end Cutadapt
