import Cutadapt.Proofs.AlignSoundMain
/-! Exactness of the banded DP: the full DP matrix `D` (relative to the first processed column `j0`),
    its adjacent-cell properties, and `D` as a lower bound for every script from an admissible start. -/
namespace Cutadapt.Align.Exact
open Cutadapt Cutadapt.Align Cutadapt.Spec Cutadapt.Generated Cutadapt.Align.Sound

/-- mismatch indicator of reference position `i` and query position `j` -/
def delta (ctx : Ctx) (i j : Nat) : Nat := if ctx.eq (ctx.ref.getD i 0) (ctx.query.getD j 0) then 0 else 1

/-- the unbanded DP matrix; second index is the column relative to the first processed column `j0` -/
def D (ctx : Ctx) (j0 : Nat) : Nat → Nat → Nat
  | i, 0 => if j0 = 0 ∧ ctx.cfg.startInRef = true then 0 else i * ctx.cfg.indelCost
  | 0, t+1 => if ctx.cfg.startInQuery = true then 0 else (t+1) * ctx.cfg.indelCost
  | i+1, t+1 => min (D ctx j0 i t + delta ctx i (j0 + t))
                  (min (D ctx j0 i (t+1) + ctx.cfg.indelCost) (D ctx j0 (i+1) t + ctx.cfg.indelCost))
termination_by i t => (t, i)

variable {ctx : Ctx} {j0 : Nat}

theorem D_col0 (i : Nat) : D ctx j0 i 0 = if j0 = 0 ∧ ctx.cfg.startInRef = true then 0 else i * ctx.cfg.indelCost := by
  cases i <;> rw [D]

theorem D_row0 (t : Nat) : D ctx j0 0 (t+1) = if ctx.cfg.startInQuery = true then 0 else (t+1) * ctx.cfg.indelCost := by
  rw [D]

theorem D_succ (i t : Nat) : D ctx j0 (i+1) (t+1) = min (D ctx j0 i t + delta ctx i (j0 + t))
    (min (D ctx j0 i (t+1) + ctx.cfg.indelCost) (D ctx j0 (i+1) t + ctx.cfg.indelCost)) := by
  rw [D]

theorem D_00 : D ctx j0 0 0 = 0 := by
  rw [D_col0, Nat.zero_mul, ite_self]

theorem D_row_startQ (h : ctx.cfg.startInQuery = true) (t : Nat) : D ctx j0 0 t = 0 := by
  cases t with
  | zero => exact D_00
  | succ t => rw [D_row0, if_pos h]

theorem D_row_noStartQ (h : ctx.cfg.startInQuery = false) (t : Nat) : D ctx j0 0 t = t * ctx.cfg.indelCost := by
  cases t with
  | zero => rw [D_00, Nat.zero_mul]
  | succ t => rw [D_row0, h, if_neg Bool.false_ne_true]

theorem D_del (i t : Nat) : D ctx j0 (i+1) t ≤ D ctx j0 i t + ctx.cfg.indelCost := by
  cases t with
  | zero =>
    rw [D_col0, D_col0]; split
    · omega
    · rw [Nat.add_mul]; omega
  | succ t => rw [D_succ]; exact Nat.le_trans (Nat.min_le_right _ _) (Nat.min_le_left _ _)

theorem D_ins (i t : Nat) : D ctx j0 i (t+1) ≤ D ctx j0 i t + ctx.cfg.indelCost := by
  cases i with
  | zero =>
    cases h : ctx.cfg.startInQuery
    · rw [D_row_noStartQ h, D_row_noStartQ h, Nat.add_mul]; omega
    · rw [D_row_startQ h, D_row_startQ h]; omega
  | succ i => rw [D_succ]; exact Nat.le_trans (Nat.min_le_right _ _) (Nat.min_le_right _ _)

theorem D_sub (i t : Nat) : D ctx j0 (i+1) (t+1) ≤ D ctx j0 i t + delta ctx i (j0 + t) := by
  rw [D_succ]; exact Nat.min_le_left _ _

theorem D_le_ins : ∀ (i t : Nat), D ctx j0 i t ≤ D ctx j0 i (t+1) + ctx.cfg.indelCost
  | 0, t => by
    cases h : ctx.cfg.startInQuery
    · rw [D_row_noStartQ h, D_row_noStartQ h, Nat.add_mul]; omega
    · rw [D_row_startQ h, D_row_startQ h]; omega
  | i+1, t => by
    have ih := D_le_ins i t
    have h1 := D_del (ctx := ctx) (j0 := j0) i t
    rw [D_succ]
    omega

theorem D_le_del : ∀ (t i : Nat), D ctx j0 i t ≤ D ctx j0 (i+1) t + ctx.cfg.indelCost
  | 0, i => by
    rw [D_col0, D_col0]; split
    · omega
    · rw [Nat.add_mul]; omega
  | t+1, i => by
    have ih := D_le_del t i
    have h1 := D_ins (ctx := ctx) (j0 := j0) i t
    rw [D_succ]
    omega

/-- values do not decrease along a diagonal -/
theorem D_diag (i t : Nat) : D ctx j0 i t ≤ D ctx j0 (i+1) (t+1) := by
  have h1 := D_le_ins (ctx := ctx) (j0 := j0) i t
  have h2 := D_le_del (ctx := ctx) (j0 := j0) t i
  rw [D_succ]; omega

/-- on equal characters the diagonal is optimal -/
theorem D_match (i t : Nat) (h : delta ctx i (j0 + t) = 0) : D ctx j0 (i+1) (t+1) = D ctx j0 i t := by
  have h1 := D_le_ins (ctx := ctx) (j0 := j0) i t
  have h2 := D_le_del (ctx := ctx) (j0 := j0) t i
  rw [D_succ, h]; omega

theorem seg_eq_cons {α : Type} {xs : List α} {r i : Nat} {x : α} {l : List α} (d : α) (h : x :: l = seg xs r i)
    (hri : r ≤ i) (hi : i ≤ xs.length) : r < i ∧ x = xs.getD r d ∧ l = seg xs (r+1) i := by
  have hlen := congrArg List.length h
  rw [seg_length] at hlen
  simp only [List.length_cons] at hlen
  have hr : r < i := by omega
  refine ⟨hr, ?_⟩
  unfold seg at h ⊢
  have hr' : r < (xs.take i).length := by rw [List.length_take]; omega
  rw [List.drop_eq_getElem_cons hr'] at h
  have h1 := (List.cons.inj h).1
  have h2 := (List.cons.inj h).2
  refine ⟨?_, h2⟩
  rw [h1, List.getElem_take, List.getD_eq_getElem?_getD, List.getElem?_eq_getElem (by omega)]
  rfl

theorem seg_eq_nil {α : Type} {xs : List α} {r i : Nat} (h : [] = seg xs r i) (hri : r ≤ i) (hi : i ≤ xs.length) :
    r = i := by
  have hlen := congrArg List.length h
  rw [seg_length] at hlen
  simp only [List.length_nil] at hlen
  omega

theorem D_lower : ∀ (s : List Op) (r tq i tj : Nat), r ≤ i → i ≤ ctx.ref.length → tq ≤ tj →
    j0 + tj ≤ ctx.query.length → lhs s = seg ctx.ref r i → rhs s = seg ctx.query (j0 + tq) (j0 + tj) →
    D ctx j0 i tj ≤ D ctx j0 r tq + cost ctx.eq ctx.cfg.indelCost s
  | [], r, tq, i, tj, hri, hi, hqj, hj, hl, hr => by
    have e1 := seg_eq_nil hl hri hi
    have e2 : tq = tj := Nat.add_left_cancel (seg_eq_nil hr (Nat.add_le_add_left hqj _) hj)
    subst e1 e2; simp
  | .sub x y :: s, r, tq, i, tj, hri, hi, hqj, hj, hl, hr => by
    simp only [lhs_cons, rhs_cons, Op.lhs, Op.rhs, List.singleton_append] at hl hr
    obtain ⟨h1, h2, h3⟩ := seg_eq_cons 0 hl hri hi
    obtain ⟨g1, g2, g3⟩ := seg_eq_cons 0 hr (Nat.add_le_add_left hqj _) hj
    have ih := D_lower s (r+1) (tq+1) i tj h1 hi (by omega) hj h3 g3
    have hs := D_sub (ctx := ctx) (j0 := j0) r tq
    simp only [cost_cons, Op.cost]
    have hd : delta ctx r (j0 + tq) = if ctx.eq x y = true then 0 else 1 := by unfold delta; rw [h2, g2]
    omega
  | .del x :: s, r, tq, i, tj, hri, hi, hqj, hj, hl, hr => by
    simp only [lhs_cons, rhs_cons, Op.lhs, Op.rhs, List.singleton_append, List.nil_append] at hl hr
    obtain ⟨h1, h2, h3⟩ := seg_eq_cons 0 hl hri hi
    have ih := D_lower s (r+1) tq i tj h1 hi hqj hj h3 hr
    have hs := D_del (ctx := ctx) (j0 := j0) r tq
    simp only [cost_cons, Op.cost]
    omega
  | .ins y :: s, r, tq, i, tj, hri, hi, hqj, hj, hl, hr => by
    simp only [lhs_cons, rhs_cons, Op.lhs, Op.rhs, List.singleton_append, List.nil_append] at hl hr
    obtain ⟨g1, g2, g3⟩ := seg_eq_cons 0 hr (Nat.add_le_add_left hqj _) hj
    have ih := D_lower s r (tq+1) i tj hri hi (by omega) hj hl g3
    have hs := D_ins (ctx := ctx) (j0 := j0) r tq
    simp only [cost_cons, Op.cost]
    omega

/-- admissible starts, restricted to query positions at or after the first processed column -/
def RStart (ctx : Ctx) (j0 r0 q0 : Nat) : Prop :=
  (r0 = 0 ∨ ctx.cfg.startInRef = true) ∧ (q0 = 0 ∨ ctx.cfg.startInQuery = true) ∧ (r0 = 0 ∨ q0 = 0) ∧ j0 ≤ q0

theorem D_start {r0 q0 : Nat} (h : RStart ctx j0 r0 q0) : D ctx j0 r0 (q0 - j0) = 0 := by
  obtain ⟨h1, h2, h3, h4⟩ := h
  rcases h3 with h3 | h3
  · subst h3
    rcases h2 with h2 | h2
    · rw [show q0 - j0 = 0 by omega, D_00]
    · exact D_row_startQ h2 _
  · subst h3
    have hj : j0 = 0 := by omega
    subst hj
    rw [Nat.sub_self, D_col0]
    rcases h1 with h1 | h1
    · rw [h1, Nat.zero_mul, ite_self]
    · rw [if_pos ⟨rfl, h1⟩]

/-- every script from an admissible start to `(i, j)` costs at least `D i (j - j0)` -/
theorem D_le_cost {s : List Op} {r0 q0 i j : Nat} (hst : RStart ctx j0 r0 q0) (hri : r0 ≤ i)
    (hi : i ≤ ctx.ref.length) (hqj : q0 ≤ j) (hj : j ≤ ctx.query.length)
    (hl : lhs s = seg ctx.ref r0 i) (hr : rhs s = seg ctx.query q0 j) :
    D ctx j0 i (j - j0) ≤ cost ctx.eq ctx.cfg.indelCost s := by
  have ⟨_, _, _, h0⟩ := hst
  have := D_lower (j0 := j0) s r0 (q0 - j0) i (j - j0) hri hi (by omega) (by omega) hl
    (by rw [Nat.add_sub_cancel' h0, Nat.add_sub_cancel' (Nat.le_trans h0 hqj)]; exact hr)
  rw [D_start hst] at this
  omega

end Cutadapt.Align.Exact
