import Cutadapt.Proofs.DpExactFound
import Cutadapt.Proofs.Script
import Cutadapt.Proofs.Seg
/-! C02: completeness of `locate`, the converse of `locate_sound`: what meets the description of a result is found. -/
namespace Cutadapt.MatchSound
open Cutadapt Cutadapt.Align Cutadapt.Spec Cutadapt.Generated Cutadapt.Align.Exact
open Cutadapt.Align.Sound

theorem or_true_of_false_imp {b : Bool} {p : Prop} (h : b = false → p) : p ∨ b = true := by
  cases b
  · exact .inl (h rfl)
  · exact .inr rfl

/-- two intervals of equal length on each side that end in the same cell and each start on an edge of the matrix
    start in the same cell -/
theorem diag_start_unique {as rs as' rs' ae re : Nat} (h : ae - as = re - rs) (h' : ae - as' = re - rs')
    (b1 : as ≤ ae) (b3 : rs ≤ re) (g1 : as' ≤ ae) (g2 : rs' ≤ re)
    (hone : as = 0 ∨ rs = 0) (hone' : as' = 0 ∨ rs' = 0) : as' = as := by omega

/-- **Completeness of `locate`.** Intervals that meet everything `locate_sound` promises of a result make `locate` report
    a match, provided the acceptance test cannot depend on which optimal start the end cell remembers: either the start
    of the reference cannot be skipped (and the error rate is below 1), or the errors do not pay for an indel, so that
    the start is determined by the diagonal. -/
theorem locate_complete {cfg : Cfg} {ref query : Bytes} (hwf : cfg.WF ref.length) (hmo : 1 ≤ cfg.minOverlap)
    {as ae rs re d : Nat} (h : SoundResult cfg ref query as ae rs re d)
    (hmode : (cfg.startInRef = false ∧ cfg.thr 0 = 0 ∧ ∀ L, 0 < L → cfg.thr L < L) ∨ d < cfg.indelCost) :
    locate cfg ref query ≠ none := by
  obtain ⟨b1, b2, b3, b4, hsr, hsq, hone, her, heq, hstop, hov, ⟨s, hl, hr, hcs⟩, htol⟩ := h
  have hc1 := hwf.indel_pos
  have b2' : ae ≤ (encodeRef cfg ref).length := by rw [encodeRef_length]; exact b2
  have b4' : re ≤ (encodeQuery cfg query).length := by rw [encodeQuery_length]; exact b4
  have hll : (lhs s).length = ae - as := by rw [hl, seg_length' _ _ _ b2']
  have hrl : (rhs s).length = re - rs := by rw [hr, seg_length' _ _ _ b4']
  have hdk : d ≤ cfg.k := cost_le_k hwf (Nat.le_trans (Nat.sub_le ..) b2) htol
  have hmaxN : re ≤ maxNOf cfg ref.length query.length := by
    unfold maxNOf
    cases hf : cfg.startInQuery
    · have hrlen := rhs_length_le cfg.eq cfg.indelCost hc1 s
      rw [hll, hrl, hsq hf] at hrlen
      exact Nat.le_min.mpr ⟨b4, by omega⟩
    · exact b4
  -- errors that do not pay for an indel leave the occurrence on a diagonal
  have hdiag : d < cfg.indelCost → ae - as = re - rs := fun hlt => by
    have := (no_indel_script cfg.eq cfg.indelCost s (by omega)).1
    rwa [hll, hrl] at this
  -- the occurrence consumes at least one read character
  have hre : rs < re := by
    rcases hmode with ⟨_, ht0, hlt⟩ | hlt
    · have h1 := lhs_length_le cfg.eq cfg.indelCost hc1 s
      rw [hll, hrl] at h1
      have heff := effLen_le_length cfg ref ref.length as ae (ae - as)
      by_cases h0 : Align.effLen cfg ref ref.length as ae (ae - as) = 0
      · rw [h0, ht0] at htol; omega
      · have := hlt _ (Nat.pos_of_ne_zero h0); omega
    · have := hdiag hlt; omega
  have hmin := start_ge_minN hwf b2 heq hl hr (Nat.le_trans hcs hdk)
  have hsr' := or_true_of_false_imp hsr
  have hsq' := or_true_of_false_imp hsq
  have hcase : minNOf cfg ref.length query.length = 0 ∨ cfg.startInQuery = true :=
    hsq'.imp_left fun h0 => by omega
  have hD := D_le_cost (ctx := mkCtx cfg ref query) ⟨hsr', hsq', hone, hmin⟩ b1 b2' b3 b4' hl hr
  have hD' : D (mkCtx cfg ref query) (minNOf cfg ref.length query.length) ae
      (re - minNOf cfg ref.length query.length) ≤ d := Nat.le_trans hD hcs
  -- whatever the end cell remembers starts where the occurrence starts, so it passes the acceptance test
  have hq : Qual cfg ref query ae re := by
    refine ⟨Nat.le_trans hD' hdk, fun e hg hce => ?_⟩
    obtain ⟨g1, g2, g3, _, se, hle, hre', hce'⟩ := hg
    suffices hstart : (decode e.origin).1 = as from
      accB_iff.mpr (by rw [hstart]; exact ⟨hov, Nat.le_trans (Nat.le_trans hce hD') htol⟩)
    rcases hmode with ⟨hnr, _, _⟩ | hlt
    · rw [hsr hnr]
      exact g3.resolve_right (by rw [show (mkCtx cfg ref query).cfg.startInRef = false from hnr]; exact Bool.noConfusion)
    · obtain ⟨hn, _⟩ := no_indel_script _ cfg.indelCost se (Nat.lt_of_le_of_lt hce' (by omega))
      rw [hle, hre', seg_length' (mkCtx cfg ref query).ref _ _ b2', seg_length' (mkCtx cfg ref query).query _ _ b4'] at hn
      have hone' : (decode e.origin).1 = 0 ∨ (decode e.origin).2 = 0 := by unfold decode; split <;> simp
      exact diag_start_unique (hdiag hlt) hn b1 b3 g1 g2 hone hone'
  apply locate_ne_none_of_found
  refine finalBest_found hwf hcase ?_ hq
  have hmin' := Nat.lt_of_le_of_lt hmin hre
  by_cases hren : re = query.length
  · subst hren
    exact .inr ⟨rfl, Nat.le_antisymm (maxNOf_le ..) hmaxN, hmin', her, b2⟩
  · exact .inl ⟨hstop.resolve_right hren, (or_true_of_false_imp heq).resolve_left hren, hmin', hmaxN⟩

end Cutadapt.MatchSound
