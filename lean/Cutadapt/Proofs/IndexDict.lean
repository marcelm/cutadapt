import Cutadapt.Index
import Std.Data.HashMap.Lemmas
/-! The two dictionary instances of `Cutadapt/Index.lean` satisfy the lookup laws. -/
namespace Cutadapt.Index

theorem alistGet_insert (d : List (Bytes × Entry)) (k : Bytes) (v : Entry) (k' : Bytes) :
    alistGet (alistInsert d k v) k' = if k = k' then some v else alistGet d k' := by
  induction d with
  | nil => simp [alistInsert, alistGet]
  | cons p rest ih =>
    obtain ⟨k0, v0⟩ := p
    simp only [alistInsert]
    by_cases h0 : k0 = k
    · subst h0
      simp only [if_true, alistGet]
      by_cases h1 : k0 = k' <;> simp [h1]
    · simp only [h0, if_false, alistGet, ih]
      by_cases h1 : k0 = k'
      · subst h1
        have : ¬ k = k0 := fun h => h0 h.symm
        simp [this]
      · simp [h1]

theorem alistGet_erase (d : List (Bytes × Entry)) (k k' : Bytes) :
    alistGet (alistErase d k) k' = if k = k' then none else alistGet d k' := by
  induction d with
  | nil => simp [alistErase, alistGet]
  | cons p rest ih =>
    obtain ⟨k0, v0⟩ := p
    simp only [alistErase]
    by_cases h0 : k0 = k
    · subst h0
      simp only [if_true, ih, alistGet]
      by_cases h1 : k0 = k' <;> simp [h1]
    · simp only [h0, if_false, alistGet, ih]
      by_cases h1 : k0 = k'
      · subst h1
        have : ¬ k = k0 := fun h => h0 h.symm
        simp [this]
      · simp [h1]

theorem alistOps_lawful : alistOps.Lawful :=
  ⟨fun _ => rfl, alistGet_insert, alistGet_erase⟩

theorem hashOps_lawful : hashOps.Lawful := by
  refine ⟨fun k => ?_, fun d k v k' => ?_, fun d k k' => ?_⟩
  · exact Std.HashMap.getElem?_emptyWithCapacity
  · simp only [hashOps, Std.HashMap.getElem?_insert, beq_iff_eq]
  · simp only [hashOps, Std.HashMap.getElem?_erase, beq_iff_eq]

end Cutadapt.Index
