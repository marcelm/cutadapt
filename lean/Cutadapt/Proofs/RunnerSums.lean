import Cutadapt.Runner
/-! Sums over the workers and over lists of chunk indices (natural numbers and a commutative monoid of statistics). -/
namespace Cutadapt.Runner

variable {Stats : Type}

def sumW : Nat → (Nat → Nat) → Nat
  | 0, _ => 0
  | n + 1, f => sumW n f + f n

theorem sumW_congr {n : Nat} {f g : Nat → Nat} (h : ∀ v, v < n → g v = f v) : sumW n g = sumW n f := by
  induction n with
  | zero => rfl
  | succ n ih =>
    simp only [sumW]
    rw [ih (fun v hv => h v (Nat.lt_succ_of_lt hv)), h n (Nat.lt_succ_self n)]

theorem sumW_update {n w : Nat} {f g : Nat → Nat} (hw : w < n) (h : ∀ v, v ≠ w → g v = f v) :
    sumW n g + f w = sumW n f + g w := by
  induction n with
  | zero => exact absurd hw (Nat.not_lt_zero _)
  | succ n ih =>
    simp only [sumW]
    by_cases hwn : w = n
    · subst hwn
      rw [sumW_congr (f := f) (g := g) (fun v hv => h v (Nat.ne_of_lt hv)), Nat.add_right_comm]
    · rw [Nat.add_right_comm, ih (Nat.lt_of_le_of_ne (Nat.le_of_lt_succ hw) hwn), h n (fun e => hwn e.symm), Nat.add_right_comm]

theorem sumW_add_const {n : Nat} {f g : Nat → Nat} (c : Nat) (h : ∀ v, v < n → g v = f v + c) :
    sumW n g = sumW n f + n * c := by
  induction n with
  | zero => simp [sumW]
  | succ n ih =>
    simp only [sumW]
    rw [ih (fun v hv => h v (Nat.lt_succ_of_lt hv)), h n (Nat.lt_succ_self n), Nat.succ_mul]
    exact Nat.add_add_add_comm _ _ _ _

theorem le_sumW {n v : Nat} {f : Nat → Nat} (hv : v < n) : f v ≤ sumW n f := by
  induction n with
  | zero => exact absurd hv (Nat.not_lt_zero _)
  | succ n ih =>
    by_cases hvn : v = n
    · subst hvn; exact Nat.le_add_left _ _
    · exact Nat.le_trans (ih (Nat.lt_of_le_of_ne (Nat.le_of_lt_succ hv) hvn)) (Nat.le_add_right _ _)

theorem sumW_mono {n : Nat} {f g : Nat → Nat} (h : ∀ v, v < n → f v ≤ g v) : sumW n f ≤ sumW n g := by
  induction n with
  | zero => exact Nat.le_refl _
  | succ n ih => exact Nat.add_le_add (ih fun v hv => h v (Nat.lt_succ_of_lt hv)) (h n (Nat.lt_succ_self n))

theorem sumW_lt {n w : Nat} {f g : Nat → Nat} (h : ∀ v, v < n → f v ≤ g v) (hw : w < n) (hlt : f w < g w) :
    sumW n f < sumW n g := by
  induction n with
  | zero => exact absurd hw (Nat.not_lt_zero _)
  | succ n ih =>
    simp only [sumW]
    have hn := h n (Nat.lt_succ_self n)
    by_cases hwn : w = n
    · subst hwn
      exact Nat.add_lt_add_of_le_of_lt (sumW_mono fun v hv => h v (Nat.lt_succ_of_lt hv)) hlt
    · exact Nat.add_lt_add_of_lt_of_le (ih (fun v hv => h v (Nat.lt_succ_of_lt hv)) (Nat.lt_of_le_of_ne (Nat.le_of_lt_succ hw) hwn)) hn

theorem sumW_eq_const {n : Nat} {f : Nat → Nat} (c : Nat) (h : ∀ v, v < n → f v = c) : sumW n f = n * c := by
  induction n with
  | zero => simp [sumW]
  | succ n ih =>
    simp only [sumW]
    rw [ih (fun v hv => h v (Nat.lt_succ_of_lt hv)), h n (Nat.lt_succ_self n), Nat.succ_mul]

/-- the hypotheses on `Statistics.__iadd__` / `Statistics()` under which the order of merging is irrelevant -/
structure IsCommMonoid (add : Stats → Stats → Stats) (zero : Stats) : Prop where
  assoc : ∀ a b c, add (add a b) c = add a (add b c)
  comm : ∀ a b, add a b = add b a
  zero_add : ∀ a, add zero a = a

theorem IsCommMonoid.add_zero {add : Stats → Stats → Stats} {zero : Stats} (h : IsCommMonoid add zero) (a : Stats) :
    add a zero = a := by rw [h.comm, h.zero_add]

section
variable {add : Stats → Stats → Stats} {zero : Stats}

theorem sumRange_congr {n : Nat} {f g : Nat → Stats} (h : ∀ v, v < n → g v = f v) :
    sumRange add zero g n = sumRange add zero f n := by
  induction n with
  | zero => rfl
  | succ n ih =>
    simp only [sumRange]
    rw [ih (fun v hv => h v (Nat.lt_succ_of_lt hv)), h n (Nat.lt_succ_self n)]

/-- `g` is `f` with `δ` added at worker `w` -/
theorem sumRange_update (hm : IsCommMonoid add zero) {n w : Nat} {f g : Nat → Stats} {δ : Stats} (hw : w < n)
    (h : ∀ v, v ≠ w → g v = f v) (hd : g w = add (f w) δ) :
    sumRange add zero g n = add (sumRange add zero f n) δ := by
  induction n with
  | zero => exact absurd hw (Nat.not_lt_zero _)
  | succ n ih =>
    simp only [sumRange]
    by_cases hwn : w = n
    · subst hwn
      rw [sumRange_congr (n := w) (f := f) (g := g) (fun v hv => h v (Nat.ne_of_lt hv)), hd, hm.assoc]
    · rw [ih (Nat.lt_of_le_of_ne (Nat.le_of_lt_succ hw) hwn), h n (fun e => hwn e.symm), hm.assoc, hm.comm δ, ← hm.assoc]

theorem sumRange_zero (hm : IsCommMonoid add zero) {n : Nat} {f : Nat → Stats} (h : ∀ v, v < n → f v = zero) :
    sumRange add zero f n = zero := by
  induction n with
  | zero => rfl
  | succ n ih =>
    simp only [sumRange]
    rw [ih (fun v hv => h v (Nat.lt_succ_of_lt hv)), h n (Nat.lt_succ_self n), hm.zero_add]

/-- `st i₁ + (st i₂ + (… + zero))` over a list of chunk indices -/
def wsum (add : Stats → Stats → Stats) (zero : Stats) (st : Nat → Stats) : List Nat → Stats
  | [] => zero
  | i :: l => add (st i) (wsum add zero st l)

theorem wsum_append (hm : IsCommMonoid add zero) (st : Nat → Stats) (l₁ l₂ : List Nat) :
    wsum add zero st (l₁ ++ l₂) = add (wsum add zero st l₁) (wsum add zero st l₂) := by
  induction l₁ with
  | nil => simp [wsum, hm.zero_add]
  | cons a l ih => simp only [List.cons_append, wsum, ih, hm.assoc]

theorem wsum_perm (hm : IsCommMonoid add zero) (st : Nat → Stats) {l₁ l₂ : List Nat} (h : l₁.Perm l₂) :
    wsum add zero st l₁ = wsum add zero st l₂ := by
  induction h with
  | nil => rfl
  | cons a _ ih => simp only [wsum, ih]
  | swap a b l => simp only [wsum]; rw [← hm.assoc, hm.comm (st b), hm.assoc]
  | trans _ _ ih₁ ih₂ => rw [ih₁, ih₂]

theorem wsum_range (hm : IsCommMonoid add zero) (st : Nat → Stats) (k : Nat) :
    wsum add zero st (List.range k) = sumRange add zero st k := by
  induction k with
  | zero => rfl
  | succ k ih =>
    rw [List.range_succ, wsum_append hm, ih]
    simp only [wsum, sumRange, hm.add_zero]

end

/-- a list of naturals in which exactly the numbers below `N` occur, each once, is a permutation of `range N` -/
theorem perm_range_of_count {l : List Nat} {N : Nat} (h : ∀ i, l.count i = if i < N then 1 else 0) :
    l.Perm (List.range N) := by
  rw [List.perm_iff_count]
  intro i
  rw [h i, List.nodup_range.count]
  simp [List.mem_range]

end Cutadapt.Runner
