import Cutadapt.Proofs.AdapterFacts
import Cutadapt.Spec.Occurrence
/-! C01, part 1: the generated translation tables implement the documented character matching.
    Checked by kernel computation: each *generated* table is compared with the list of the documented values of all 256 bytes. -/
namespace Cutadapt.MatchSound
open Cutadapt Cutadapt.Align Cutadapt.Spec Cutadapt.Generated Cutadapt.Adapters

theorem tr_eq_of_toList {t : Array UInt8} {f : UInt8 → UInt8}
    (h : t.toList = (List.range 256).map (fun n => f (UInt8.ofNat n))) (c : UInt8) : tr t c = f c := by
  unfold tr
  rw [Array.getD_eq_getD_getElem?, ← Array.getElem?_toList, h, List.getElem?_map,
    List.getElem?_range (by simpa using c.toNat_lt)]
  simp

-- comparing the lists costs one evaluation of `f` per byte; looking each byte up in the array walks the literal every time
theorem iupacTable_doc (c : UInt8) : tr iupacTable c = iupacSet c :=
  tr_eq_of_toList (by decide +kernel) c

theorem acgtTable_doc (c : UInt8) : tr acgtTable c = plainSet c :=
  tr_eq_of_toList (by decide +kernel) c

theorem upperTable_doc (c : UInt8) : tr upperTable c = upperAscii c :=
  tr_eq_of_toList (by decide +kernel) c

-- the specification's `upperAscii` and the model's `asciiUpper` are the same conditional
theorem upperAscii_upper (c : UInt8) : upperAscii (asciiUpper c) = upperAscii c := asciiUpper_idem c

theorem iupacSet_congr {x y : UInt8} (h : upperAscii x = upperAscii y) : iupacSet x = iupacSet y := by
  unfold upperAscii at h
  unfold iupacSet
  rw [h]

theorem plainSet_congr {x y : UInt8} (h : upperAscii x = upperAscii y) : plainSet x = plainSet y := by
  unfold upperAscii at h
  unfold plainSet
  rw [h]

theorem iupacSet_upper (c : UInt8) : iupacSet (asciiUpper c) = iupacSet c := iupacSet_congr (upperAscii_upper c)

theorem plainSet_upper (c : UInt8) : plainSet (asciiUpper c) = plainSet c := plainSet_congr (upperAscii_upper c)

theorem docMatch_upper (aw rw : Bool) (x y : UInt8) : docMatch aw rw x (asciiUpper y) = docMatch aw rw x y := by
  unfold docMatch
  rw [iupacSet_upper, plainSet_upper, upperAscii_upper]

/-- per-character encodings of `Aligner` -/
def encR (aw rw : Bool) (x : UInt8) : UInt8 :=
  if aw then tr iupacTable x else if rw then tr acgtTable x else x
def encQ (aw rw : Bool) (y : UInt8) : UInt8 :=
  if rw then tr iupacTable y else if aw then tr acgtTable y else tr upperTable y
/-- per-character encoding of the comparers' reference -/
def cencR (aw rw : Bool) (x : UInt8) : UInt8 :=
  if aw then tr iupacTable x else if rw then tr acgtTable x else tr upperTable x

theorem encodeRef_eq_map (cfg : Cfg) (s : Bytes) : encodeRef cfg s = s.map (encR cfg.wildRef cfg.wildQuery) := by
  unfold encodeRef encR
  split
  · rfl
  · split
    · rfl
    · simp

theorem encodeQuery_eq_map (cfg : Cfg) (s : Bytes) : encodeQuery cfg s = s.map (encQ cfg.wildRef cfg.wildQuery) := by
  unfold encodeQuery encQ
  split
  · rfl
  · split <;> rfl

theorem cmpEncodeRef_eq_map (c : CmpCfg) (s : Bytes) : cmpEncodeRef c s = s.map (cencR c.wildRef c.wildQuery) := by
  unfold cmpEncodeRef cencR
  split
  · rfl
  · split <;> rfl

theorem cmpEncodeQuery_eq_map (c : CmpCfg) (s : Bytes) : cmpEncodeQuery c s = s.map (encQ c.wildRef c.wildQuery) := by
  unfold cmpEncodeQuery encQ
  split
  · rfl
  · split <;> rfl

theorem docMatch_eq_comparer (aw rw : Bool) (x y : UInt8) :
    docMatch aw rw x y = charsEqual (!rw && !aw) (cencR aw rw x) (encQ aw rw y) := by
  unfold docMatch charsEqual cencR encQ
  cases aw <;> cases rw <;>
    simp [iupacTable_doc, acgtTable_doc, upperTable_doc]

/-- the comparers upper-case the adapter themselves; `Aligner` relies on its being stored in upper case -/
theorem encR_eq_cencR (aw rw : Bool) {x : UInt8} (hx : ¬ (97 ≤ x ∧ x ≤ 122)) : encR aw rw x = cencR aw rw x := by
  unfold encR cencR
  rw [upperTable_doc]
  unfold upperAscii
  rw [if_neg hx]

theorem docMatch_eq_aligner (aw rw : Bool) (x y : UInt8) (hx : ¬ (97 ≤ x ∧ x ≤ 122)) :
    docMatch aw rw x y = charsEqual (!rw && !aw) (encR aw rw x) (encQ aw rw y) := by
  rw [encR_eq_cencR aw rw hx]
  exact docMatch_eq_comparer aw rw x y

end Cutadapt.MatchSound
