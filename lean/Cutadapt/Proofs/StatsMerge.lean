import Cutadapt.StatsMerge
import Cutadapt.Proofs.StepsFate
import Cutadapt.Proofs.OrderStats
/-! `Statistics.__iadd__` adds: the merged summary is the componentwise sum of its two arguments (tables compared through `getCount`),
    hence merging the statistics of the chunks of a run gives the statistics of the whole run, in whatever order and grouping. -/
namespace Cutadapt.Steps
open Cutadapt

section Counts
variable {κ : Type} [BEq κ] [LawfulBEq κ]

/-- dictionaries have one binding per key: under that condition `for k, v in b.items(): a[k] += v` adds entry by entry -/
theorem getCount_mergeCounts (k : κ) (a b : List (κ × Nat)) (hb : (b.map (·.1)).Nodup) :
    getCount k (mergeCounts a b) = getCount k a + getCount k b := by
  unfold mergeCounts
  induction b generalizing a with
  | nil => simp [getCount]
  | cons p rest ih =>
    obtain ⟨k', v⟩ := p
    rw [List.map_cons, List.nodup_cons] at hb
    rw [List.foldl_cons, ih _ hb.2, Cutadapt.getCount_incr, Cutadapt.getCount_cons]
    cases h : k' == k
    · simp
    · have e : k' = k := eq_of_beq h
      subst e
      have : getCount k' rest = 0 := getCount_eq_zero_of_not_mem k' rest (fun q hq => by
        cases hq1 : q.1 == k'
        · rfl
        · exact absurd (List.mem_map.mpr ⟨q, hq, eq_of_beq hq1⟩) hb.1)
      simp [this]

theorem nodup_keys_mergeCounts (a b : List (κ × Nat)) (ha : (a.map (·.1)).Nodup) : ((mergeCounts a b).map (·.1)).Nodup := by
  unfold mergeCounts
  induction b generalizing a with
  | nil => exact ha
  | cons p rest ih => exact ih _ (nodup_keys_incr p.1 p.2 a ha)

omit [LawfulBEq κ] in
theorem sumVals_mergeCounts (a b : List (κ × Nat)) : sumVals (mergeCounts a b) = sumVals a + sumVals b := by
  unfold mergeCounts
  induction b generalizing a with
  | nil => exact (Nat.add_zero _).symm
  | cons p rest ih =>
    rw [List.foldl_cons, ih]
    simp only [sumVals, sum_incr, List.map_cons, List.sum_cons]
    omega

end Counts

/-- the tables of a summary are dictionaries (one binding per key) -/
structure KeysNodup (s : Summary) : Prop where
  filtered : (s.filteredByStep.map (·.1)).Nodup
  polyA1 : (s.polyA1.map (·.1)).Nodup
  polyA2 : (s.polyA2.map (·.1)).Nodup

theorem keysNodup_zero : KeysNodup Summary.zero := ⟨List.nodup_nil, List.nodup_nil, List.nodup_nil⟩

theorem keysNodup_add (s : Summary) (h : KeysNodup s) (ev : Event) : KeysNodup (s.add ev) := by
  cases ev with
  | polyA side k =>
    cases side
    · exact ⟨h.filtered, nodup_keys_incr _ _ _ h.polyA1, h.polyA2⟩
    · exact ⟨h.filtered, h.polyA1, nodup_keys_incr _ _ _ h.polyA2⟩
  | filtered i => exact ⟨nodup_keys_incr _ _ _ h.filtered, h.polyA1, h.polyA2⟩
  | qualTrimmed side k => cases side <;> exact ⟨h.filtered, h.polyA1, h.polyA2⟩
  | withAdapter side => cases side <;> exact ⟨h.filtered, h.polyA1, h.polyA2⟩
  | _ => exact ⟨h.filtered, h.polyA1, h.polyA2⟩

/-- what `Statistics.collect` gathers from a run has one entry per key -/
theorem keysNodup_summarize (evs : List Event) : KeysNodup (summarize evs) := by
  unfold summarize
  have : ∀ (s : Summary), KeysNodup s → KeysNodup (evs.foldl Summary.add s) := by
    induction evs with
    | nil => exact fun s h => h
    | cons e es ih => exact fun s h => ih _ (keysNodup_add s h e)
  exact this _ keysNodup_zero

theorem keysNodup_merge (a b : Summary) (ha : KeysNodup a) : KeysNodup (a.merge b) :=
  ⟨nodup_keys_mergeCounts _ _ ha.filtered, nodup_keys_mergeCounts _ _ ha.polyA1, nodup_keys_mergeCounts _ _ ha.polyA2⟩

/-- two summaries report the same figures (tables are dictionaries: compared entry by entry) -/
structure SummaryEq (s t : Summary) : Prop where
  n : s.n = t.n
  bp1 : s.bp1 = t.bp1
  bp2 : s.bp2 = t.bp2
  written : s.written = t.written
  writtenBp1 : s.writtenBp1 = t.writtenBp1
  writtenBp2 : s.writtenBp2 = t.writtenBp2
  qualTrimmed1 : s.qualTrimmed1 = t.qualTrimmed1
  qualTrimmed2 : s.qualTrimmed2 = t.qualTrimmed2
  withAdapters1 : s.withAdapters1 = t.withAdapters1
  withAdapters2 : s.withAdapters2 = t.withAdapters2
  reverseComplemented : s.reverseComplemented = t.reverseComplemented
  filteredAt : ∀ k, getCount k s.filteredByStep = getCount k t.filteredByStep
  filteredTotal : sumVals s.filteredByStep = sumVals t.filteredByStep
  polyA1 : ∀ k, getCount k s.polyA1 = getCount k t.polyA1
  polyA2 : ∀ k, getCount k s.polyA2 = getCount k t.polyA2

theorem summaryEq_iff {s t : Summary} : SummaryEq s t ↔ ∀ f, s.fig f = t.fig f :=
  ⟨fun h f => match f with
    | .n => h.n | .bp1 => h.bp1 | .bp2 => h.bp2 | .written => h.written | .writtenBp1 => h.writtenBp1 | .writtenBp2 => h.writtenBp2
    | .qualTrimmed1 => h.qualTrimmed1 | .qualTrimmed2 => h.qualTrimmed2 | .withAdapters1 => h.withAdapters1
    | .withAdapters2 => h.withAdapters2 | .reverseComplemented => h.reverseComplemented | .filteredAt k => h.filteredAt k
    | .filteredTotal => h.filteredTotal | .polyA1 k => h.polyA1 k | .polyA2 k => h.polyA2 k,
   fun h => ⟨h .n, h .bp1, h .bp2, h .written, h .writtenBp1, h .writtenBp2, h .qualTrimmed1, h .qualTrimmed2, h .withAdapters1,
    h .withAdapters2, h .reverseComplemented, fun k => h (.filteredAt k), h .filteredTotal, fun k => h (.polyA1 k), fun k => h (.polyA2 k)⟩⟩

/-- `Statistics.__iadd__` adds every figure; for the entries of a table this needs one binding per key on the right -/
theorem fig_merge (a b : Summary) (hb : KeysNodup b) (f : Fig) : (a.merge b).fig f = a.fig f + b.fig f := by
  cases f
  case filteredAt k => exact getCount_mergeCounts k _ _ hb.filtered
  case filteredTotal => exact sumVals_mergeCounts _ _
  case polyA1 k => exact getCount_mergeCounts k _ _ hb.polyA1
  case polyA2 k => exact getCount_mergeCounts k _ _ hb.polyA2
  all_goals rfl

theorem fig_zero (f : Fig) : Summary.zero.fig f = 0 := by cases f <;> rfl

theorem isSum_zero : IsSum Summary.zero [] := isSum_iff.2 fig_zero

theorem isSum_self (a : Summary) : IsSum a [a] := isSum_iff.2 fun _ => (Nat.add_zero _).symm

theorem IsSum.append {s t : Summary} {p q : List Summary} (hs : IsSum s p) (ht : IsSum t q) (kt : KeysNodup t) :
    IsSum (s.merge t) (p ++ q) :=
  isSum_iff.2 fun f => by rw [fig_merge s t kt, isSum_iff.1 hs f, isSum_iff.1 ht f, List.map_append, List.sum_append]

/-- **`Statistics.__iadd__` adds**: `a += b` is the componentwise sum of `a` and `b` -/
theorem merge_isSum (a b : Summary) (hb : KeysNodup b) : IsSum (a.merge b) [a, b] :=
  (isSum_self a).append (isSum_self b) hb

/-- sums of the same parts are equal -/
theorem IsSum.unique {s t : Summary} {parts : List Summary} (hs : IsSum s parts) (ht : IsSum t parts) : SummaryEq s t :=
  summaryEq_iff.2 fun f => (isSum_iff.1 hs f).trans (isSum_iff.1 ht f).symm

theorem SummaryEq.refl (s : Summary) : SummaryEq s s :=
  summaryEq_iff.2 fun _ => rfl

theorem SummaryEq.symm {s t : Summary} (h : SummaryEq s t) : SummaryEq t s :=
  summaryEq_iff.2 fun f => (summaryEq_iff.1 h f).symm

theorem SummaryEq.trans {s t u : Summary} (h : SummaryEq s t) (g : SummaryEq t u) : SummaryEq s u :=
  summaryEq_iff.2 fun f => (summaryEq_iff.1 h f).trans (summaryEq_iff.1 g f)

/-- merging respects equality of figures -/
theorem merge_congr {a a' b b' : Summary} (ha : SummaryEq a a') (hb : SummaryEq b b') (nb : KeysNodup b) (nb' : KeysNodup b') :
    SummaryEq (a.merge b) (a'.merge b') :=
  summaryEq_iff.2 fun f => by rw [fig_merge a b nb, fig_merge a' b' nb', summaryEq_iff.1 ha f, summaryEq_iff.1 hb f]

/-- the sum does not depend on the order of the parts -/
theorem IsSum.perm {s : Summary} {parts parts' : List Summary} (h : IsSum s parts) (p : parts.Perm parts') : IsSum s parts' :=
  isSum_iff.2 fun f => (isSum_iff.1 h f).trans (p.map _).sum_nat

/-- one more `+=` -/
theorem IsSum.snoc {s : Summary} {parts : List Summary} (h : IsSum s parts) (x : Summary) (hx : KeysNodup x) :
    IsSum (s.merge x) (parts ++ [x]) :=
  h.append (isSum_self x) hx

/-- `stats = Statistics(); for s in parts: stats += s` -/
def mergeAll (parts : List Summary) : Summary := parts.foldl Summary.merge Summary.zero

theorem foldl_merge_isSum (l : List Summary) (hl : ∀ x ∈ l, KeysNodup x) (acc : Summary) (parts : List Summary) (h : IsSum acc parts) :
    IsSum (l.foldl Summary.merge acc) (parts ++ l) := by
  induction l generalizing acc parts with
  | nil => simpa using h
  | cons x xs ih =>
    rw [List.foldl_cons]
    have := ih (fun y hy => hl y (List.mem_cons_of_mem _ hy)) _ _ (h.snoc x (hl x List.mem_cons_self))
    simpa using this

theorem mergeAll_isSum (l : List Summary) (hl : ∀ x ∈ l, KeysNodup x) : IsSum (mergeAll l) l := by
  have := foldl_merge_isSum l hl _ _ isSum_zero
  simpa [mergeAll] using this

end Cutadapt.Steps
