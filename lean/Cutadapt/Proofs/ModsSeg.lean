import Cutadapt.Pipeline
import Cutadapt.Proofs.Seg
/-! Slices of reads: `SameSeg`, `QualOK`, `SegRel`. The theory is proved for `SegRel`; `SameSeg` is `SegRel true []`.
    Then the slicing primitives of `Read` and the `trimmed` methods of matches. Core Lean only. -/
namespace Cutadapt
open Cutadapt.Adapters Cutadapt.Qualtrim

/-- `r'` carries a contiguous slice of the sequence of `r` and the same slice of its qualities -/
def SameSeg (r r' : Read) : Prop := ∃ a b, r'.seq = seg r.seq a b ∧ r'.qual = r.qual.map (seg · a b)

/-- dnaio's invariant: a quality string, when present, is as long as the sequence -/
def QualOK (r : Read) : Prop := ∀ q, r.qual = some q → q.length = r.seq.length

theorem SameSeg.refl (r : Read) : SameSeg r r := by
  -- `QualOK` is not assumed, so the upper bound has to reach the end of both strings
  refine ⟨0, r.seq.length + (r.qual.getD []).length, ?_, ?_⟩
  · rw [seg_of_length_le _ _ _ (Nat.le_add_right _ _)]
    rfl
  · cases h : r.qual with
    | none => rfl
    | some q => simp [seg_of_length_le]

theorem SameSeg.of_eq {r r' : Read} (hs : r'.seq = r.seq) (hq : r'.qual = r.qual) : SameSeg r r' := by
  obtain ⟨a, b, h1, h2⟩ := SameSeg.refl r
  exact ⟨a, b, hs ▸ h1, hq ▸ h2⟩

theorem SameSeg.of_rename (r : Read) (c : Prop) [Decidable c] (n : Bytes) :
    SameSeg r (if c then { r with name := n } else r) :=
  .of_eq (by split <;> rfl) (by split <;> rfl)

theorem QualOK.of_eq {r r' : Read} (hs : r'.seq = r.seq) (hq : r'.qual = r.qual) (h : QualOK r) : QualOK r' := by
  intro q hq'
  rw [hs]
  exact h q (hq ▸ hq')

/-- `ZeroCapper`: characters below the quality base are replaced by the base character -/
def capQual (base : Nat) (q : Bytes) : Bytes := q.map (fun c => if c.toNat < base then base.toUInt8 else c)

def capAll (bases : List Nat) (q : Bytes) : Bytes := bases.foldl (fun q b => capQual b q) q

theorem capQual_length (base : Nat) (q : Bytes) : (capQual base q).length = q.length := by simp [capQual]
theorem capQual_seg (base : Nat) (q : Bytes) (a b : Nat) : seg (capQual base q) a b = capQual base (seg q a b) := by
  simp [capQual, seg_map]
theorem capQual_reverse (base : Nat) (q : Bytes) : (capQual base q).reverse = capQual base q.reverse := by
  simp [capQual]

theorem capAll_length (bs : List Nat) (q : Bytes) : (capAll bs q).length = q.length := by
  induction bs generalizing q with
  | nil => rfl
  | cons b bs ih =>
    simp only [capAll, List.foldl_cons] at ih ⊢
    rw [ih, capQual_length]
theorem capAll_seg (bs : List Nat) (q : Bytes) (a b : Nat) : seg (capAll bs q) a b = capAll bs (seg q a b) := by
  induction bs generalizing q with
  | nil => rfl
  | cons c bs ih =>
    simp only [capAll, List.foldl_cons] at ih ⊢
    rw [ih, capQual_seg]
theorem capAll_reverse (bs : List Nat) (q : Bytes) : (capAll bs q).reverse = capAll bs q.reverse := by
  induction bs generalizing q with
  | nil => rfl
  | cons c bs ih =>
    simp only [capAll, List.foldl_cons] at ih ⊢
    rw [ih, capQual_reverse]
theorem capAll_append (bs cs : List Nat) (q : Bytes) : capAll (bs ++ cs) q = capAll cs (capAll bs q) := by
  simp [capAll, List.foldl_append]

/-- sequences of equal length, and equal when `strict` -/
def SeqRel (strict : Bool) (x y : Bytes) : Prop := x.length = y.length ∧ (strict = true → x = y)

theorem SeqRel.refl (s : Bool) (x : Bytes) : SeqRel s x x := ⟨rfl, fun _ => rfl⟩
theorem SeqRel.trans {s : Bool} {x y z : Bytes} (h1 : SeqRel s x y) (h2 : SeqRel s y z) : SeqRel s x z :=
  ⟨h1.1.trans h2.1, fun hs => (h1.2 hs).trans (h2.2 hs)⟩
theorem SeqRel.seg {s : Bool} {x y : Bytes} (h : SeqRel s x y) (a b : Nat) : SeqRel s (seg x a b) (seg y a b) :=
  ⟨by rw [seg_length, seg_length, h.1], fun hs => by rw [h.2 hs]⟩
theorem SeqRel.rc {s : Bool} {x y : Bytes} (h : SeqRel s x y) :
    SeqRel s (x.map Read.complement).reverse (y.map Read.complement).reverse :=
  ⟨by simp [h.1], fun hs => by rw [h.2 hs]⟩

/-- `r'` is the slice `[a, b)` of `r`: the sequence (when `strict`; otherwise a string of that length), and the
    qualities up to zero-capping with the given bases in turn -/
def SegRel (strict : Bool) (bases : List Nat) (r r' : Read) : Prop :=
  ∃ a b, SeqRel strict (seg r.seq a b) r'.seq ∧ r'.qual = r.qual.map (fun q => capAll bases (seg q a b))

theorem SameSeg.segRel {r r' : Read} (h : SameSeg r r') (s : Bool) : SegRel s [] r r' := by
  obtain ⟨a, b, h1, h2⟩ := h
  exact ⟨a, b, by rw [h1]; exact SeqRel.refl _ _, h2⟩

theorem SegRel.refl (s : Bool) (r : Read) : SegRel s [] r r := (SameSeg.refl r).segRel s

theorem segRel_true_nil_iff (r r' : Read) : SegRel true [] r r' ↔ SameSeg r r' := by
  constructor
  · rintro ⟨a, b, h1, h2⟩
    exact ⟨a, b, (h1.2 rfl).symm, h2⟩
  · exact fun h => h.segRel true

theorem SegRel.weaken {s : Bool} {bs : List Nat} {r r' : Read} (h : SegRel true bs r r') : SegRel s bs r r' := by
  obtain ⟨a, b, h1, h2⟩ := h
  exact ⟨a, b, ⟨h1.1, fun _ => h1.2 rfl⟩, h2⟩

theorem SegRel.trans {s : Bool} {bs cs : List Nat} {r r' r'' : Read}
    (h1 : SegRel s bs r r') (h2 : SegRel s cs r' r'') : SegRel s (bs ++ cs) r r'' := by
  obtain ⟨a, b, hs, hq⟩ := h1
  obtain ⟨c, d, hs', hq'⟩ := h2
  refine ⟨a + c, min b (a + d), ?_, ?_⟩
  · rw [← seg_seg]
    exact (hs.seg c d).trans hs'
  · rw [hq', hq, Option.map_map]
    congr 1
    funext q
    simp only [Function.comp, capAll_seg, seg_seg, capAll_append]

theorem SegRel.qualOK {s : Bool} {bs : List Nat} {r r' : Read} (h : SegRel s bs r r') (hq : QualOK r) : QualOK r' := by
  obtain ⟨a, b, hs, hq'⟩ := h
  intro q hq2
  rw [hq'] at hq2
  cases hr : r.qual with
  | none =>
    rw [hr] at hq2
    simp at hq2
  | some q0 =>
    rw [hr] at hq2
    simp at hq2
    rw [← hq2, ← hs.1, capAll_length, seg_length, seg_length, hq q0 hr]

theorem SegRel.revcomp {s : Bool} {bs : List Nat} {r r' : Read} (h : SegRel s bs r r') (hq : QualOK r) :
    SegRel s bs r.revcomp r'.revcomp := by
  obtain ⟨a, b, hs, hq'⟩ := h
  refine ⟨r.seq.length - b, r.seq.length - a, ?_, ?_⟩
  · have := hs.rc
    rw [← seg_map, seg_reverse] at this
    simpa [Read.revcomp] using this
  · simp only [Read.revcomp, hq']
    cases hr : r.qual with
    | none => rfl
    | some q => simp [capAll_reverse, seg_reverse, hq q hr]

theorem SegRel.of_eq {s : Bool} {r r' : Read} (hs : r'.seq = r.seq) (hq : r'.qual = r.qual) : SegRel s [] r r' :=
  (SameSeg.of_eq hs hq).segRel s

theorem SegRel.of_rename (s : Bool) (r : Read) (c : Prop) [Decidable c] (n : Bytes) :
    SegRel s [] r (if c then { r with name := n } else r) :=
  (SameSeg.of_rename r c n).segRel s

theorem SegRel.of_capped {s : Bool} {bs : List Nat} {r r' : Read} (hs : r'.seq = r.seq)
    (hq : r'.qual = r.qual.map (capAll bs)) : SegRel s bs r r' := by
  obtain ⟨a, b, h1, h2⟩ := SameSeg.refl r
  refine ⟨a, b, by rw [hs, ← h1]; exact SeqRel.refl _ _, ?_⟩
  rw [hq]
  -- on the left only: `h2` has `r.qual` on both sides, so rewriting with it everywhere would not end
  conv =>
    lhs
    rw [h2]
  rw [Option.map_map]
  rfl

theorem SegRel.of_marked {r r' : Read} (hs : r'.seq.length = r.seq.length) (hq : r'.qual = r.qual) :
    SegRel false [] r r' := by
  obtain ⟨a, b, h1, h2⟩ := SameSeg.refl r
  refine ⟨a, b, ⟨?_, fun h => by simp at h⟩, ?_⟩
  · rw [← h1, hs]
  · rw [hq]
    exact h2

theorem SameSeg.trans {r r' r'' : Read} (h1 : SameSeg r r') (h2 : SameSeg r' r'') : SameSeg r r'' :=
  (segRel_true_nil_iff r r'').1 ((h1.segRel true).trans (h2.segRel true))

theorem SameSeg.qualOK {r r' : Read} (h : SameSeg r r') (hq : QualOK r) : QualOK r' := (h.segRel true).qualOK hq

/-- revcomp of a slice is a slice of the revcomp (equal lengths of sequence and qualities needed) -/
theorem SameSeg.revcomp {r r' : Read} (h : SameSeg r r') (hq : QualOK r) : SameSeg r.revcomp r'.revcomp :=
  (segRel_true_nil_iff _ _).1 ((h.segRel true).revcomp hq)

theorem QualOK.revcomp {r : Read} (h : QualOK r) : QualOK r.revcomp := by
  intro q hq
  cases hr : r.qual with
  | none => simp [Read.revcomp, hr] at hq
  | some q0 =>
    simp [Read.revcomp, hr] at hq
    simp [Read.revcomp, ← hq, h q0 hr]

theorem SameSeg.sub (r : Read) (a b : Nat) : SameSeg r (r.sub a b) := ⟨a, b, rfl, rfl⟩

theorem SameSeg.takeFront (r : Read) (k : Nat) : SameSeg r (r.takeFront k) := by
  refine ⟨0, k, ?_, ?_⟩
  · simp [Read.takeFront, seg_zero]
  · simp only [Read.takeFront]
    congr 1

theorem SameSeg.dropFront (r : Read) (k : Nat) : SameSeg r (r.dropFront k) := by
  -- the upper bound as in `SameSeg.refl`
  refine ⟨k, r.seq.length + (r.qual.getD []).length, ?_, ?_⟩
  · simp only [Read.dropFront]
    rw [seg_of_length_le _ _ _ (Nat.le_add_right _ _)]
  · cases h : r.qual with
    | none => simp [Read.dropFront, h]
    | some q => simp [Read.dropFront, h, seg_of_length_le]

theorem QualOK.oriented {r : Read} (h : QualOK r) (c : Prop) [Decidable c] : QualOK (if c then r.revcomp else r) := by
  split
  · exact h.revcomp
  · exact h

/-- `record[a:b]` with Python bounds: the bounds are normalised against the length of the string they are
    applied to, hence the same for sequence and qualities only when the two are equally long -/
theorem SameSeg.slice (r : Read) (hq : QualOK r) (a b : Option Int) : SameSeg r (r.slice a b) := by
  refine ⟨normBound r.seq.length 0 a, normBound r.seq.length r.seq.length b, rfl, ?_⟩
  cases h : r.qual with
  | none => simp [Read.slice, h]
  | some q => simp [Read.slice, h, pySlice, hq q h]

theorem Read.sub_name (r : Read) (a b : Nat) : (r.sub a b).name = r.name := rfl
theorem Read.slice_name (r : Read) (a b : Option Int) : (r.slice a b).name = r.name := rfl
theorem Read.takeFront_name (r : Read) (k : Nat) : (r.takeFront k).name = r.name := rfl
theorem Read.dropFront_name (r : Read) (k : Nat) : (r.dropFront k).name = r.name := rfl
theorem Read.revcomp_name (r : Read) : r.revcomp.name = r.name := rfl

theorem MatchRec.trimmed_sameSeg (m : MatchRec) (r : Read) : SameSeg r (m.trimmed r) := by
  unfold MatchRec.trimmed
  split
  · exact SameSeg.dropFront _ _
  · exact SameSeg.takeFront _ _

theorem MatchRec.trimmed_name (m : MatchRec) (r : Read) : (m.trimmed r).name = r.name := by
  unfold MatchRec.trimmed
  split <;> rfl

theorem AnyMatch.trimmed_sameSeg (m : AnyMatch) (r : Read) : SameSeg r (m.trimmed r) := by
  cases m with
  | single _ mr => exact mr.trimmed_sameSeg r
  | linked _ f b =>
    cases f <;> cases b <;> simp only [AnyMatch.trimmed]
    · exact SameSeg.refl r
    · exact MatchRec.trimmed_sameSeg _ _
    · exact MatchRec.trimmed_sameSeg _ _
    · exact (MatchRec.trimmed_sameSeg _ _).trans (MatchRec.trimmed_sameSeg _ _)

theorem AnyMatch.trimmed_name (m : AnyMatch) (r : Read) : (m.trimmed r).name = r.name := by
  cases m with
  | single _ mr => exact mr.trimmed_name r
  | linked _ f b =>
    cases f <;> cases b <;> simp [AnyMatch.trimmed, MatchRec.trimmed_name]

end Cutadapt
