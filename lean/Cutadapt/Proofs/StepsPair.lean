import Cutadapt.Pipeline
/-! `_find_best_match_pair` (`bestPairGo`): the chosen pair of matches is the lexicographic optimum
    (highest summed score, then fewest summed errors, then lowest rank) among the ranks where both adapters match. -/
namespace Cutadapt.Steps
open Cutadapt Cutadapt.Adapters

/-- (summed score, summed errors) of a pair of matches -/
def pairKey (m : AnyMatch × AnyMatch) : Int × Nat := (m.1.score + m.2.score, m.1.errors + m.2.errors)

/-- `x` is strictly better than `y`: higher score, or equal score and fewer errors -/
def Beats (x y : Int × Nat) : Prop := x.1 > y.1 ∨ (x.1 = y.1 ∧ x.2 < y.2)

theorem Beats.irrefl (x : Int × Nat) : ¬ Beats x x := by unfold Beats; omega
theorem Beats.trans {x y z : Int × Nat} (h1 : Beats x y) (h2 : Beats y z) : Beats x z := by unfold Beats at *; omega
theorem Beats.negTrans {x z : Int × Nat} (y : Int × Nat) (h : Beats x z) : Beats x y ∨ Beats y z := by
  unfold Beats at *; omega
theorem Beats.asymm {x y : Int × Nat} (h : Beats x y) : ¬ Beats y x := by unfold Beats at *; omega

/-- rank `j` is a candidate: both adapters of rank `j` match, giving `(m1, m2)` -/
def Cand (s1 s2 : Bytes) (l : List (Matchable × Matchable)) (i j : Nat) (m : AnyMatch × AnyMatch) : Prop :=
  ∃ k a1 a2, l[k]? = some (a1, a2) ∧ j = i + k ∧ a1.matchTo j s1 = some m.1 ∧ a2.matchTo j s2 = some m.2

theorem cand_cons {s1 s2 : Bytes} {a : Matchable × Matchable} {rest : List (Matchable × Matchable)} {i j : Nat}
    {m : AnyMatch × AnyMatch} :
    Cand s1 s2 (a :: rest) i j m ↔
      (j = i ∧ a.1.matchTo i s1 = some m.1 ∧ a.2.matchTo i s2 = some m.2) ∨ Cand s1 s2 rest (i + 1) j m := by
  constructor
  · rintro ⟨k, a1, a2, hk, rfl, h1, h2⟩
    cases k with
    | zero =>
      simp only [List.getElem?_cons_zero, Option.some.injEq] at hk
      subst hk
      exact .inl ⟨rfl, h1, h2⟩
    | succ k =>
      simp only [List.getElem?_cons_succ] at hk
      exact .inr ⟨k, a1, a2, hk, by omega, h1, h2⟩
  · rintro (⟨rfl, h1, h2⟩ | ⟨k, a1, a2, hk, rfl, h1, h2⟩)
    · exact ⟨0, a.1, a.2, by simp, rfl, h1, h2⟩
    · exact ⟨k + 1, a1, a2, by simpa using hk, by omega, h1, h2⟩

theorem cand_rank_ge {s1 s2 l i j m} (h : Cand s1 s2 l i j m) : i ≤ j := by
  obtain ⟨k, _, _, _, rfl, _⟩ := h; omega

/-- what `bestPairGo` returns, for an arbitrary incumbent `best` -/
def GoSpec (s1 s2 : Bytes) (l : List (Matchable × Matchable)) (i : Nat) (best res : Option (AnyMatch × AnyMatch)) : Prop :=
  (res = best ∧ ∀ j n, Cand s1 s2 l i j n → ∃ b, best = some b ∧ ¬ Beats (pairKey n) (pairKey b)) ∨
  (∃ j m, Cand s1 s2 l i j m ∧ res = some m ∧ (∀ b, best = some b → Beats (pairKey m) (pairKey b)) ∧
    ∀ j' n, Cand s1 s2 l i j' n →
      ¬ Beats (pairKey n) (pairKey m) ∧ (¬ Beats (pairKey m) (pairKey n) → j ≤ j'))

theorem beats_iff (m1 m2 b1 b2 : AnyMatch) :
    (decide (m1.score + m2.score > b1.score + b2.score) ||
      (m1.score + m2.score == b1.score + b2.score && decide (m1.errors + m2.errors < b1.errors + b2.errors))) = true ↔
    Beats (pairKey (m1, m2)) (pairKey (b1, b2)) := by
  simp [Beats, pairKey]

theorem bestPairGo_spec (s1 s2 : Bytes) (l : List (Matchable × Matchable)) (i : Nat)
    (best : Option (AnyMatch × AnyMatch)) : GoSpec s1 s2 l i best (bestPairGo s1 s2 l i best) := by
  induction l generalizing i best with
  | nil =>
    left
    refine ⟨rfl, ?_⟩
    rintro j n ⟨k, a1, a2, hk, -⟩
    simp at hk
  | cons a rest ih =>
    obtain ⟨a1, a2⟩ := a
    have uniq : ∀ {n m : AnyMatch × AnyMatch}, a1.matchTo i s1 = some m.1 → a2.matchTo i s2 = some m.2 →
        a1.matchTo i s1 = some n.1 → a2.matchTo i s2 = some n.2 → n = m :=
      fun h1 h2 e1 e2 => Prod.ext (Option.some.inj (e1.symm.trans h1)) (Option.some.inj (e2.symm.trans h2))
    -- a candidate at rank `i` taking over from the incumbent
    have takeover : ∀ m : AnyMatch × AnyMatch, a1.matchTo i s1 = some m.1 → a2.matchTo i s2 = some m.2 →
        (∀ b, best = some b → Beats (pairKey m) (pairKey b)) →
        GoSpec s1 s2 ((a1, a2) :: rest) i best (bestPairGo s1 s2 rest (i + 1) (some m)) := by
      intro m h1 h2 hbeat
      right
      rcases ih (i + 1) (some m) with ⟨hres, hall⟩ | ⟨j, m', hc, hres, hb, hopt⟩
      · refine ⟨i, m, cand_cons.2 (.inl ⟨rfl, h1, h2⟩), hres, hbeat, ?_⟩
        intro j' n hn
        rcases cand_cons.1 hn with ⟨rfl, e1, e2⟩ | hn
        · cases uniq h1 h2 e1 e2
          exact ⟨Beats.irrefl _, fun _ => Nat.le_refl _⟩
        · obtain ⟨b, hb, hnb⟩ := hall j' n hn
          simp only [Option.some.injEq] at hb; subst hb
          exact ⟨hnb, fun _ => Nat.le_trans (Nat.le_succ i) (cand_rank_ge hn)⟩
      · have hm'm := hb m rfl
        refine ⟨j, m', cand_cons.2 (.inr hc), hres, fun b hb' => Beats.trans hm'm (hbeat b hb'), ?_⟩
        intro j' n hn
        rcases cand_cons.1 hn with ⟨rfl, e1, e2⟩ | hn
        · cases uniq h1 h2 e1 e2
          exact ⟨Beats.asymm hm'm, fun h => absurd hm'm h⟩
        · exact hopt j' n hn
    -- no candidate at rank `i`, or one that does not beat the incumbent
    have skip : (∀ m : AnyMatch × AnyMatch, a1.matchTo i s1 = some m.1 → a2.matchTo i s2 = some m.2 →
          ∃ b, best = some b ∧ ¬ Beats (pairKey m) (pairKey b)) →
        GoSpec s1 s2 ((a1, a2) :: rest) i best (bestPairGo s1 s2 rest (i + 1) best) := by
      intro hno
      rcases ih (i + 1) best with ⟨hres, hall⟩ | ⟨j, m', hc, hres, hb, hopt⟩
      · left
        refine ⟨hres, ?_⟩
        intro j' n hn
        rcases cand_cons.1 hn with ⟨rfl, e1, e2⟩ | hn
        · exact hno n e1 e2
        · exact hall j' n hn
      · right
        refine ⟨j, m', cand_cons.2 (.inr hc), hres, hb, ?_⟩
        intro j' n hn
        rcases cand_cons.1 hn with ⟨rfl, e1, e2⟩ | hn
        · obtain ⟨b, hbb, hnb⟩ := hno n e1 e2
          have hm'b := hb b hbb
          have hm'n : Beats (pairKey m') (pairKey n) := by
            rcases Beats.negTrans (pairKey n) hm'b with h | h
            · exact h
            · exact absurd h hnb
          exact ⟨Beats.asymm hm'n, fun h => absurd hm'n h⟩
        · exact hopt j' n hn
    simp only [bestPairGo]
    split
    · rename_i hm1
      exact skip (fun m h1 _ => by simp [hm1] at h1)
    · rename_i m1 hm1
      split
      · rename_i hm2
        exact skip (fun m _ h2 => by simp [hm2] at h2)
      · rename_i m2 hm2
        split
        · exact takeover (m1, m2) hm1 hm2 (fun b hb => by simp at hb)
        · rename_i b1 b2
          split
          · rename_i hcond
            refine takeover (m1, m2) hm1 hm2 (fun b hb => ?_)
            simp only [Option.some.injEq] at hb; subst hb
            exact (beats_iff m1 m2 b1 b2).1 hcond
          · rename_i hcond
            refine skip (fun m h1 h2 => ⟨(b1, b2), rfl, ?_⟩)
            cases uniq (m := (m1, m2)) hm1 hm2 h1 h2
            exact fun h => hcond ((beats_iff m1 m2 b1 b2).2 h)

/-- a match names the list entry it came from — for single and linked adapters (an index object names one of its members) -/
theorem matchTo_adapter {a : Matchable} {i : Nat} {s : Bytes} {m : AnyMatch} (hni : a.isIndexed = false) (h : a.matchTo i s = some m) :
    m.adapter = i := by
  cases a with
  | indexed ix ids => simp [Matchable.isIndexed] at hni
  | single ad =>
    simp only [Matchable.matchTo, Option.map_eq_some_iff] at h
    obtain ⟨x, -, rfl⟩ := h
    rfl
  | linked f b fr br n =>
    simp only [Matchable.matchTo] at h
    repeat' split at h
    all_goals first
      | (simp at h; done)
      | (exact (Option.some.inj h) ▸ rfl)

/-- Top level: nothing is returned iff no rank has matches on both sides; otherwise the returned pair is the candidate of
    some rank `j`, no candidate is strictly better, and every equally good candidate has a rank `≥ j`. -/
theorem bestPair_spec (s1 s2 : Bytes) (ads1 ads2 : List Matchable) :
    (bestPairGo s1 s2 (ads1.zip ads2) 0 none = none ∧ ∀ j n, ¬ Cand s1 s2 (ads1.zip ads2) 0 j n) ∨
    (∃ j m, bestPairGo s1 s2 (ads1.zip ads2) 0 none = some m ∧ Cand s1 s2 (ads1.zip ads2) 0 j m ∧
      ∀ j' n, Cand s1 s2 (ads1.zip ads2) 0 j' n →
        ¬ Beats (pairKey n) (pairKey m) ∧ (¬ Beats (pairKey m) (pairKey n) → j ≤ j')) := by
  rcases bestPairGo_spec s1 s2 (ads1.zip ads2) 0 none with ⟨hres, hall⟩ | ⟨j, m, hc, hres, -, hopt⟩
  · left
    refine ⟨hres, fun j n hn => ?_⟩
    obtain ⟨b, hb, -⟩ := hall j n hn
    simp at hb
  · exact .inr ⟨j, m, hres, hc, hopt⟩

theorem cand_zip {s1 s2 : Bytes} {ads1 ads2 : List Matchable} {j : Nat} {m : AnyMatch × AnyMatch} :
    Cand s1 s2 (ads1.zip ads2) 0 j m ↔
      ∃ a1 a2, ads1[j]? = some a1 ∧ ads2[j]? = some a2 ∧ a1.matchTo j s1 = some m.1 ∧ a2.matchTo j s2 = some m.2 := by
  constructor
  · rintro ⟨k, a1, a2, hk, rfl, h1, h2⟩
    rw [List.getElem?_zip_eq_some] at hk
    simp only [Nat.zero_add] at h1 h2 ⊢
    exact ⟨a1, a2, hk.1, hk.2, h1, h2⟩
  · rintro ⟨a1, a2, e1, e2, h1, h2⟩
    exact ⟨j, a1, a2, List.getElem?_zip_eq_some.2 ⟨e1, e2⟩, by omega, h1, h2⟩
end Cutadapt.Steps
