import Cutadapt.Proofs.LocateSpec
import Cutadapt.Proofs.Script
/-! Soundness invariant of the alignment DP (`Align.locate`): every cell with cost ≤ k remembers an admissible
    start (`decode` of its origin) and is witnessed by an edit script of at most that cost (`Good`); one cell step
    preserves this and the score bookkeeping (`ScoreOK`). `good_of_box`: cells filled in without a script to extend
    (the initial column) get theirs from the size of their box. -/
namespace Cutadapt.Align.Sound
open Cutadapt Cutadapt.Align Cutadapt.Spec Cutadapt.Generated

theorem effLen_le_length (cfg : Cfg) (ref : Bytes) (m a b len : Nat) : effLen cfg ref m a b len ≤ len := by
  unfold effLen
  split
  · split <;> omega
  · exact Nat.le_refl _

/-- start position (in reference, in query) encoded by an `origin` value -/
def decode (o : Int) : Nat × Nat := if o ≥ 0 then (0, o.toNat) else ((-o).toNat, 0)

theorem decode_nonneg {o : Int} (h : 0 ≤ o) : decode o = (0, o.toNat) :=
  if_pos h

theorem decode_neg {o : Int} (h : o < 0) : decode o = ((-o).toNat, 0) := by
  unfold decode
  exact if_neg (Int.not_le.mpr h)

theorem decode_fst (o : Int) : (decode o).1 = (-(min o 0)).toNat := by
  by_cases h : 0 ≤ o
  · rw [decode_nonneg h]
    simp only
    omega
  · rw [decode_neg (by omega)]
    simp only
    omega

theorem decode_snd (o : Int) : (decode o).2 = o.toNat := by
  by_cases h : 0 ≤ o
  · rw [decode_nonneg h]
  · rw [decode_neg (by omega)]
    simp only
    omega

theorem decode_one (o : Int) : (decode o).1 = 0 ∨ (decode o).2 = 0 := by
  by_cases h : 0 ≤ o
  · left; rw [decode_nonneg h]
  · right; rw [decode_neg (by omega)]

structure Ctx where
  cfg : Cfg
  ascii : Bool
  ref : List Sym     -- encoded reference
  query : List Sym   -- encoded query

def Ctx.eq (ctx : Ctx) : Sym → Sym → Bool := charsEqual ctx.ascii

theorem encodeRef_length (cfg : Cfg) (s : Bytes) : (encodeRef cfg s).length = s.length := by
  unfold encodeRef; split
  · simp
  · split <;> simp

theorem encodeQuery_length (cfg : Cfg) (s : Bytes) : (encodeQuery cfg s).length = s.length := by
  unfold encodeQuery; split
  · simp
  · split <;> simp

/-- the context of one `locate` call -/
def mkCtx (cfg : Cfg) (ref query : Bytes) : Ctx := ⟨cfg, compareAscii cfg, encodeRef cfg ref, encodeQuery cfg query⟩

theorem mkCtx_ref_length (cfg : Cfg) (ref query : Bytes) : (mkCtx cfg ref query).ref.length = ref.length :=
  encodeRef_length cfg ref

theorem mkCtx_query_length (cfg : Cfg) (ref query : Bytes) : (mkCtx cfg ref query).query.length = query.length :=
  encodeQuery_length cfg query

/-- the cell's origin is an admissible start at or before (i,j) and some script from there to (i,j)
    costs at most the cell's cost -/
def Good (ctx : Ctx) (i j : Nat) (e : Entry) : Prop :=
  (decode e.origin).1 ≤ i ∧ (decode e.origin).2 ≤ j ∧
  ((decode e.origin).1 = 0 ∨ ctx.cfg.startInRef = true) ∧
  ((decode e.origin).2 = 0 ∨ ctx.cfg.startInQuery = true) ∧
  ∃ s, lhs s = seg ctx.ref (decode e.origin).1 i ∧ rhs s = seg ctx.query (decode e.origin).2 j ∧
       cost ctx.eq ctx.cfg.indelCost s ≤ e.cost

def GoodK (ctx : Ctx) (i j : Nat) (e : Entry) : Prop := e.cost ≤ ctx.cfg.k → Good ctx i j e

theorem good_sub {ctx : Ctx} {i j : Nat} {d : Entry} (hi : i < ctx.ref.length) (hj : j < ctx.query.length)
    (h : Good ctx i j d) (sc : Int) (extra : Nat)
    (hx : (if ctx.eq ctx.ref[i] ctx.query[j] then 0 else 1) ≤ extra) :
    Good ctx (i+1) (j+1) ⟨d.cost + extra, sc, d.origin⟩ := by
  obtain ⟨h1, h2, h3, h4, s, hl, hr, hc⟩ := h
  refine ⟨by simp only; omega, by simp only; omega, h3, h4, s ++ [Op.sub ctx.ref[i] ctx.query[j]], ?_, ?_, ?_⟩
  · simp only [lhs_append, hl]
    rw [seg_succ _ _ _ h1 hi]
    simp [lhs, Op.lhs]
  · simp only [rhs_append, hr]
    rw [seg_succ _ _ _ h2 hj]
    simp [rhs, Op.rhs]
  · simp only [cost_append, cost_single, Op.cost]; omega

theorem good_del {ctx : Ctx} {i j : Nat} {p : Entry} (hi : i < ctx.ref.length)
    (h : Good ctx i j p) (sc : Int) :
    Good ctx (i+1) j ⟨p.cost + ctx.cfg.indelCost, sc, p.origin⟩ := by
  obtain ⟨h1, h2, h3, h4, s, hl, hr, hc⟩ := h
  refine ⟨by simp only; omega, h2, h3, h4, s ++ [Op.del ctx.ref[i]], ?_, ?_, ?_⟩
  · simp only [lhs_append, hl]
    rw [seg_succ _ _ _ h1 hi]
    simp [lhs, Op.lhs]
  · simp only [rhs_append, hr]; simp [rhs, Op.rhs]
  · simp only [cost_append, cost_single, Op.cost]; omega

theorem good_ins {ctx : Ctx} {i j : Nat} {c : Entry} (hj : j < ctx.query.length)
    (h : Good ctx i j c) (sc : Int) :
    Good ctx i (j+1) ⟨c.cost + ctx.cfg.indelCost, sc, c.origin⟩ := by
  obtain ⟨h1, h2, h3, h4, s, hl, hr, hc⟩ := h
  refine ⟨h1, by simp only; omega, h3, h4, s ++ [Op.ins ctx.query[j]], ?_, ?_, ?_⟩
  · simp only [lhs_append, hl]; simp [lhs, Op.lhs]
  · simp only [rhs_append, hr]
    rw [seg_succ _ _ _ h2 hj]
    simp [rhs, Op.rhs]
  · simp only [cost_append, cost_single, Op.cost]; omega

/-- one DP cell preserves the invariant -/
theorem cell_goodK {ctx : Ctx} {i j : Nat} {diag cur prev : Entry}
    (hi : i < ctx.ref.length) (hj : j < ctx.query.length)
    (hd : GoodK ctx i j diag) (hc : GoodK ctx (i+1) j cur) (hp : GoodK ctx i (j+1) prev) :
    GoodK ctx (i+1) (j+1) (cell ctx.cfg (ctx.eq ctx.ref[i] ctx.query[j]) diag cur prev) := by
  unfold cell
  simp only
  split
  · next heq => exact fun hk => good_sub hi hj (hd hk) _ 0 (by rw [if_pos heq]; exact Nat.le_refl _)
  · split
    · exact fun hk => good_sub hi hj (hd (by simp only at hk; omega)) _ 1 (by split <;> omega)
    · split
      · exact fun hk => good_del hi (hp (by simp only at hk; omega)) _
      · exact fun hk => good_ins hj (hc (by simp only at hk; omega)) _

def ScoreOK (i : Nat) (e : Entry) : Prop :=
  e.score ≤ (i : Int) ∧ (e.cost = 0 → e.score = (i : Int) + min e.origin 0)

theorem cell_score {cfg : Cfg} (hc : 1 ≤ cfg.indelCost) {i : Nat} {diag cur prev : Entry} (b : Bool)
    (hd : ScoreOK i diag) (hcur : ScoreOK (i+1) cur) (hp : ScoreOK i prev) :
    ScoreOK (i+1) (cell cfg b diag cur prev) := by
  obtain ⟨hd1, hd2⟩ := hd
  obtain ⟨hc1, hc2⟩ := hcur
  obtain ⟨hp1, hp2⟩ := hp
  unfold cell ScoreOK
  simp only [matchScore, mismatchScore, deletionScore, insertionScore]
  split
  · refine ⟨by simp only; omega, ?_⟩
    simp only
    intro h0
    have := hd2 h0
    omega
  · split
    · refine ⟨by simp only; omega, ?_⟩
      simp only
      intro h0
      omega
    · split
      · refine ⟨by simp only; omega, ?_⟩
        simp only
        intro h0
        omega
      · refine ⟨by simp only; omega, ?_⟩
        simp only
        intro h0
        omega

theorem script_exists (eq : Sym → Sym → Bool) (c : Nat) (hc : 1 ≤ c) : ∀ (xs ys : List Sym),
    ∃ s, lhs s = xs ∧ rhs s = ys ∧ cost eq c s ≤ max xs.length ys.length * c
  | [], ys => by
    obtain ⟨h1, h2, h3⟩ := ins_script eq c ys
    exact ⟨_, h1, h2, by rw [h3, List.length_nil, Nat.zero_max]; exact Nat.le_refl _⟩
  | x :: xs, [] => by
    obtain ⟨h1, h2, h3⟩ := del_script eq c (x :: xs)
    exact ⟨_, h1, h2, by rw [h3, List.length_nil, Nat.max_zero]; exact Nat.le_refl _⟩
  | x :: xs, y :: ys => by
    obtain ⟨s, h1, h2, h3⟩ := script_exists eq c hc xs ys
    refine ⟨.sub x y :: s, by simp [h1, Op.lhs], by simp [h2, Op.rhs], ?_⟩
    rw [cost_cons, List.length_cons, List.length_cons, Nat.succ_max_succ, Nat.succ_mul]
    have : Op.cost eq c (.sub x y) ≤ c := by simp only [Op.cost]; split <;> omega
    omega

theorem good_of_box {ctx : Ctx} (hc : 1 ≤ ctx.cfg.indelCost) {i j : Nat} (hi : i ≤ ctx.ref.length)
    (hj : j ≤ ctx.query.length) {e : Entry} {a r : Nat} (hdec : decode e.origin = (a, r))
    (ha : a ≤ i) (hr : r ≤ j)
    (hfa : a = 0 ∨ ctx.cfg.startInRef = true) (hfr : r = 0 ∨ ctx.cfg.startInQuery = true)
    (hcost : max (i - a) (j - r) * ctx.cfg.indelCost ≤ e.cost) :
    Good ctx i j e := by
  unfold Good
  rw [hdec]
  refine ⟨ha, hr, hfa, hfr, ?_⟩
  obtain ⟨s, h1, h2, h3⟩ := script_exists ctx.eq ctx.cfg.indelCost hc (seg ctx.ref a i) (seg ctx.query r j)
  refine ⟨s, h1, h2, Nat.le_trans h3 ?_⟩
  rw [seg_length, seg_length, Nat.min_eq_left hi, Nat.min_eq_left hj]
  exact hcost

end Cutadapt.Align.Sound
