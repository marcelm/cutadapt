import Cutadapt.Proofs.ModsActions
/-! Single modifiers as relations between input and output read; the adapter stage with and without `--revcomp`;
    the whole modifier list. Core Lean only. -/
namespace Cutadapt
open Cutadapt.Adapters Cutadapt.Qualtrim

/-- modifiers that only remove bases from the ends -/
def SMod.isTrimmer : SMod → Bool
  | .cut _ | .nextseq _ _ | .qtrim _ _ _ | .polyA _ | .shorten _ | .trimN => true
  | _ => false

/-- modifiers that only touch the read name -/
def SMod.isNameMod : SMod → Bool
  | .lengthTag _ | .stripSuffix _ | .prefixSuffix _ _ | .rename _ => true
  | _ => false

def SMod.isRevcomp : SMod → Bool
  | .revcomp _ _ _ => true
  | _ => false

/-- the zero-capping a modifier does -/
def SMod.capBases : SMod → List Nat
  | .zeroCap base => [base]
  | _ => []

theorem SMod.stage_cases (m : SMod) :
    (m.isTrimmer = true ∨ m.isNameMod = true ∨ ∃ b, m = .zeroCap b) ∨ (∃ c f, m = .adapters c f) ∨
      ∃ c s f, m = .revcomp c s f := by
  cases m with
  | cut | nextseq | qtrim | polyA | shorten | trimN => exact .inl (.inl rfl)
  | lengthTag | stripSuffix | prefixSuffix | rename => exact .inl (.inr (.inl rfl))
  | zeroCap b => exact .inl (.inr (.inr ⟨b, rfl⟩))
  | adapters c f => exact .inr (.inl ⟨c, f, rfl⟩)
  | revcomp c s f => exact .inr (.inr ⟨c, s, f, rfl⟩)

theorem SMod.eq_revcomp_of_isRevcomp {m : SMod} (h : m.isRevcomp = true) : ∃ c sfx first, m = .revcomp c sfx first := by
  cases m with
  | revcomp c sfx first => exact ⟨c, sfx, first, rfl⟩
  | _ => cases h

/-- only the zero-capper caps, and it is neither a trimmer nor a name modifier -/
theorem SMod.capBases_eq_nil {m : SMod} (h : m.isTrimmer = true ∨ m.isNameMod = true) : m.capBases = [] := by
  cases m with
  | zeroCap b => rcases h with h | h <;> cases h
  | _ => rfl

/-- only the Python slices (`cut`, `shorten`) need equally long sequence and qualities -/
theorem applyS_trimmer {names : Names} {side : Nat} {m : SMod} (hm : m.isTrimmer = true) {r r' : Read} {i i' : Info}
    {evs : List Event} (h : applyS names side m r i = .ok (r', i', evs)) :
    (QualOK r → SameSeg r r') ∧ r'.name = r.name ∧ i'.mts = i.mts ∧ i'.original = i.original ∧ i'.isRc = i.isRc := by
  cases m with
  | cut n =>
    simp only [applyS] at h
    split at h
    · cases h
      exact ⟨fun hq => .slice r hq _ _, rfl, rfl, rfl, rfl⟩
    · split at h
      · cases h
        exact ⟨fun hq => .slice r hq _ _, rfl, rfl, rfl, rfl⟩
      · cases h
  | nextseq cutoff base =>
    simp only [applyS] at h
    split at h
    · cases h
    · cases h
      exact ⟨fun _ => .sub _ _ _, rfl, rfl, rfl, rfl⟩
  | qtrim cf cb base =>
    simp only [applyS] at h
    split at h
    · cases h
    · cases h
      exact ⟨fun _ => .sub _ _ _, rfl, rfl, rfl, rfl⟩
  | polyA rc =>
    cases rc <;> cases h
    · exact ⟨fun _ => .takeFront _ _, rfl, rfl, rfl, rfl⟩
    · exact ⟨fun _ => .dropFront _ _, rfl, rfl, rfl, rfl⟩
  | shorten n =>
    simp only [applyS] at h
    split at h <;> cases h <;> exact ⟨fun hq => .slice r hq _ _, rfl, rfl, rfl, rfl⟩
  | trimN =>
    cases h
    exact ⟨fun _ => .sub _ _ _, rfl, rfl, rfl, rfl⟩
  | _ => cases hm

theorem applyS_nameMod {names : Names} {side : Nat} {m : SMod} (hm : m.isNameMod = true) {r r' : Read} {i i' : Info}
    {evs : List Event} (h : applyS names side m r i = .ok (r', i', evs)) :
    r'.seq = r.seq ∧ r'.qual = r.qual ∧ i' = i ∧ evs = [] := by
  cases m with
  | lengthTag tag =>
    cases h
    exact ⟨rfl, rfl, rfl, rfl⟩
  | stripSuffix s =>
    simp only [applyS] at h
    split at h <;> cases h <;> exact ⟨rfl, rfl, rfl, rfl⟩
  | prefixSuffix p s =>
    cases h
    exact ⟨rfl, rfl, rfl, rfl⟩
  | rename tmpl =>
    simp only [applyS] at h
    split at h
    · cases h
    · cases h
      exact ⟨rfl, rfl, rfl, rfl⟩
  | _ => cases hm

theorem applyS_zeroCap {names : Names} {side base : Nat} {r r' : Read} {i i' : Info} {evs : List Event}
    (h : applyS names side (.zeroCap base) r i = .ok (r', i', evs)) :
    r'.seq = r.seq ∧ r'.name = r.name ∧ r'.qual = r.qual.map (capQual base) ∧ i' = i ∧ evs = [] := by
  cases h
  exact ⟨rfl, rfl, rfl, rfl, rfl⟩

theorem applyS_info {names : Names} {side : Nat} {m : SMod} {r r' : Read} {i i' : Info} {evs : List Event}
    (hm : m.isTrimmer = true ∨ m.isNameMod = true ∨ ∃ b, m = .zeroCap b) (h : applyS names side m r i = .ok (r', i', evs)) :
    i'.mts = i.mts ∧ i'.original = i.original ∧ i'.isRc = i.isRc := by
  rcases hm with hm | hm | ⟨b, rfl⟩
  · exact (applyS_trimmer hm h).2.2
  · rw [(applyS_nameMod hm h).2.2.1]
    exact ⟨rfl, rfl, rfl⟩
  · rw [(applyS_zeroCap h).2.2.2.1]
    exact ⟨rfl, rfl, rfl⟩

theorem matchedEvents_eq (side : Nat) (ms : List AnyMatch) (rc : Bool) :
    (if ms.isEmpty then [] else Event.withAdapter side :: ms.map (fun m => Event.matched side m rc)) =
      matchedEvents side ms rc := rfl

/-- how the adapter stage updates `info.original_read`: it is the same object as the read when no earlier modifier
    replaced it, so the in-place upper-casing of `lowercase` shows -/
def originalAfter (first : Bool) (i : Info) (readAfter : Read) : Info :=
  if first then { i with original := { i.original with seq := readAfter.seq } } else i

theorem originalAfter_mts (first : Bool) (i : Info) (ra : Read) : (originalAfter first i ra).mts = i.mts := by
  unfold originalAfter
  split <;> rfl
theorem originalAfter_isRc (first : Bool) (i : Info) (ra : Read) : (originalAfter first i ra).isRc = i.isRc := by
  unfold originalAfter
  split <;> rfl

/-- `AdapterCutter.__call__` in terms of `match_and_trim` -/
theorem applyS_adapters (names : Names) (side : Nat) (c : Cutter) (first : Bool) (r : Read) (i : Info) :
    applyS names side (.adapters c first) r i =
      match matchAndTrim c r with
      | .error e => .error e
      | .ok (tr, ms, ra) =>
        .ok (tr, { originalAfter first i ra with mts := (originalAfter first i ra).mts ++ ms }, matchedEvents side ms false) := by
  rw [applyS]
  cases matchAndTrim c r with
  | error e => rfl
  | ok v =>
    obtain ⟨tr, ms, ra⟩ := v
    rfl

theorem applyS_adapters_ok {names : Names} {side : Nat} {c : Cutter} {first : Bool} {r r' : Read} {i i' : Info}
    {evs : List Event} (h : applyS names side (.adapters c first) r i = .ok (r', i', evs)) :
    ∃ ms ra, matchAndTrim c r = .ok (r', ms, ra) ∧
      i' = { originalAfter first i ra with mts := (originalAfter first i ra).mts ++ ms } := by
  rw [applyS_adapters] at h
  split at h
  · cases h
  · rename_i tr ms ra hmt
    cases h
    exact ⟨ms, ra, hmt, rfl⟩

/-- the decision of `ReverseComplementer.__call__` -/
def useReverse (fms rms : List AnyMatch) : Bool := !rms.isEmpty && scoreSum rms > scoreSum fms

/-- `ReverseComplementer.__call__` in terms of the two `match_and_trim` calls -/
theorem applyS_revcomp (names : Names) (side : Nat) (c : Cutter) (suffix first : Bool) (r : Read) (i : Info) :
    applyS names side (.revcomp c suffix first) r i =
      match matchAndTrim c r with
      | .error e => .error e
      | .ok (ftr, fms, fa) =>
        match matchAndTrim c r.revcomp with
        | .error e => .error e
        | .ok (rtr, rms, _) =>
          if useReverse fms rms then
            .ok (if suffix then { rtr with name := rtr.name ++ bytesOfStr " rc" } else rtr,
                 { originalAfter first i fa with isRc := some true, mts := (originalAfter first i fa).mts ++ rms },
                 Event.revComp :: Event.withAdapter side :: rms.map (fun m => Event.matched side m true))
          else
            .ok (ftr, { originalAfter first i fa with isRc := some false, mts := (originalAfter first i fa).mts ++ fms },
                 matchedEvents side fms false) := by
  rw [applyS]
  cases matchAndTrim c r with
  | error e => rfl
  | ok v =>
    obtain ⟨tr, ms, ra⟩ := v
    simp only
    cases matchAndTrim c r.revcomp with
    | error e => rfl
    | ok w =>
      obtain ⟨rtr, rms, ra'⟩ := w
      rfl

theorem applyS_revcomp_ok {names : Names} {side : Nat} {c : Cutter} {sfx first : Bool} {r r' : Read} {i i' : Info}
    {evs : List Event} (h : applyS names side (.revcomp c sfx first) r i = .ok (r', i', evs)) :
    ∃ ftr fms fa rtr rms ra, matchAndTrim c r = .ok (ftr, fms, fa) ∧ matchAndTrim c r.revcomp = .ok (rtr, rms, ra) ∧
      ((r' = (if sfx then { rtr with name := rtr.name ++ bytesOfStr " rc" } else rtr) ∧
        i' = { originalAfter first i fa with isRc := some true, mts := (originalAfter first i fa).mts ++ rms }) ∨
       (r' = ftr ∧
        i' = { originalAfter first i fa with isRc := some false, mts := (originalAfter first i fa).mts ++ fms })) := by
  rw [applyS_revcomp] at h
  split at h
  · cases h
  · rename_i ftr fms fa hf
    split at h
    · cases h
    · rename_i rtr rms ra hr
      refine ⟨ftr, fms, fa, rtr, rms, ra, hf, hr, ?_⟩
      generalize useReverse fms rms = u at h
      cases u <;> cases h
      · exact .inr ⟨rfl, rfl⟩
      · exact .inl ⟨rfl, rfl⟩

theorem applyS_isRc {names : Names} {side : Nat} {m : SMod} {r r' : Read} {i i' : Info} {evs : List Event}
    (hm : m.isRevcomp = false) (h : applyS names side m r i = .ok (r', i', evs)) : i'.isRc = i.isRc := by
  rcases m.stage_cases with hp | ⟨c, f, rfl⟩ | ⟨c, s, f, rfl⟩
  · exact (applyS_info hp h).2.2
  · obtain ⟨ms, ra, _, rfl⟩ := applyS_adapters_ok h
    exact originalAfter_isRc _ _ _
  · cases hm

/-- which cutters the pipeline theorems cover: `strict` — actions that cut (or do nothing); otherwise also the marking
    actions, provided the adapters' matches have in-bounds coordinates -/
def CutterOK (strict : Bool) (c : Cutter) : Prop :=
  (c.action = .trim ∨ c.action = .retain ∨ c.action = .crop ∨ c.action = .none) ∨
  (strict = false ∧ AdaptersInBounds c.adapters)

theorem matchAndTrim_segRel {s : Bool} {c : Cutter} (hc : CutterOK s c) {read tr ra : Read} {ms : List AnyMatch}
    (h : matchAndTrim c read = .ok (tr, ms, ra)) : SegRel s [] read tr ∧ tr.name = read.name := by
  by_cases hcut : c.action = .trim ∨ c.action = .retain ∨ c.action = .crop ∨ c.action = .none
  · obtain ⟨h1, h2, _, _⟩ := matchAndTrim_slice hcut h
    exact ⟨h1.segRel s, h2⟩
  · rcases hc with hc | ⟨rfl, hab⟩
    · exact absurd hc hcut
    · have hm : c.action = .mask ∨ c.action = .lowercase := by
        cases hact : c.action <;> simp [hact] at hcut ⊢
      obtain ⟨h1, h2, h3⟩ := matchAndTrim_marked hab hm h
      exact ⟨SegRel.of_marked h1 h2, h3⟩

def SMod.OK (strict : Bool) : SMod → Prop
  | .adapters c _ => CutterOK strict c
  | .revcomp c _ _ => CutterOK strict c
  | _ => True

theorem applyS_segRel {s : Bool} {names : Names} {side : Nat} {m : SMod} (hok : m.OK s) (hrc : m.isRevcomp = false)
    {r r' : Read} {i i' : Info} {evs : List Event} (hq : QualOK r) (h : applyS names side m r i = .ok (r', i', evs)) :
    SegRel s m.capBases r r' ∧ i'.isRc = i.isRc := by
  refine ⟨?_, applyS_isRc hrc h⟩
  rcases m.stage_cases with (ht | hn | ⟨b, rfl⟩) | ⟨c, f, rfl⟩ | ⟨c, sfx, f, rfl⟩
  · rw [SMod.capBases_eq_nil (.inl ht)]
    exact ((applyS_trimmer ht h).1 hq).segRel s
  · obtain ⟨h1, h2, _⟩ := applyS_nameMod hn h
    rw [SMod.capBases_eq_nil (.inr hn)]
    exact SegRel.of_eq h1 h2
  · obtain ⟨h1, _, h3, _⟩ := applyS_zeroCap h
    exact SegRel.of_capped h1 h3
  · obtain ⟨ms, ra, hmt, _⟩ := applyS_adapters_ok h
    exact (matchAndTrim_segRel hok hmt).1
  · cases hrc

/-- the reverse-complementing stage: a slice of the read, or of its reverse complement when that was chosen -/
theorem applyS_revcomp_segRel {s : Bool} {names : Names} {side : Nat} {c : Cutter} {sfx first : Bool}
    (hok : CutterOK s c) {r r' : Read} {i i' : Info} {evs : List Event}
    (h : applyS names side (.revcomp c sfx first) r i = .ok (r', i', evs)) :
    SegRel s [] (if i'.isRc = some true then r.revcomp else r) r' := by
  obtain ⟨ftr, fms, fa, rtr, rms, ra, hf, hr, ⟨rfl, rfl⟩ | ⟨rfl, rfl⟩⟩ := applyS_revcomp_ok h
  · rw [if_pos rfl]
    exact (matchAndTrim_segRel hok hr).1.trans (.of_rename ..)
  · rw [if_neg (by simp)]
    exact (matchAndTrim_segRel hok hf).1

def zeroCapBases (mods : List SMod) : List Nat := mods.flatMap SMod.capBases

theorem zeroCapBases_cons (m : SMod) (ms : List SMod) : zeroCapBases (m :: ms) = m.capBases ++ zeroCapBases ms :=
  List.flatMap_cons

def revcompStages (mods : List SMod) : Nat := (mods.filter SMod.isRevcomp).length

/-- where at most one element satisfies `p`, none behind such an element does -/
theorem filter_length_le_one_cons {p : α → Bool} {a : α} {l : List α} (h : ((a :: l).filter p).length ≤ 1) :
    (p a = true → ∀ x ∈ l, p x = false) ∧ (l.filter p).length ≤ 1 := by
  rw [List.filter_cons] at h
  split at h
  · have hnil : l.filter p = [] := List.eq_nil_of_length_eq_zero (by rw [List.length_cons] at h; omega)
    exact ⟨fun _ x hx => Bool.eq_false_iff.mpr (List.filter_eq_nil_iff.mp hnil x hx), by rw [hnil]; exact Nat.zero_le 1⟩
  · rename_i ha
    exact ⟨fun h' => absurd h' ha, h⟩

/-- a fold that leaves `g` alone at every step leaves it alone (the counters of `Summary.add` over an event list) -/
theorem foldl_keeps {f : β → α → β} {g : β → γ} {l : List α} (h : ∀ a ∈ l, ∀ b, g (f b a) = g b) (b : β) :
    g (l.foldl f b) = g b := by
  induction l generalizing b with
  | nil => rfl
  | cons a l ih => rw [List.foldl_cons, ih (fun x hx => h x (List.mem_cons_of_mem _ hx)), h a List.mem_cons_self]

/-- a successful run of a non-empty list: the first modifier succeeds and the rest runs on what it returns -/
theorem runModsS_cons_ok {names : Names} {m : SMod} {ms : List SMod} {r : Read} {i : Info} {evs : List Event}
    {out : Read × Info × List Event} (h : runModsS names (m :: ms) r i evs = .ok out) :
    ∃ r1 i1 e1, applyS names 0 m r i = .ok (r1, i1, e1) ∧ runModsS names ms r1 i1 (evs ++ e1) = .ok out := by
  simp only [runModsS] at h
  split at h
  · cases h
  · rename_i r1 i1 e1 h1
    exact ⟨r1, i1, e1, h1, h⟩

theorem runModsS_invariant {names : Names} {mods : List SMod} (P : Read → Info → Prop)
    (step : ∀ m ∈ mods, ∀ r i r' i' e, P r i → applyS names 0 m r i = .ok (r', i', e) → P r' i')
    {r r' : Read} {i i' : Info} {evs evs' : List Event} (h0 : P r i)
    (h : runModsS names mods r i evs = .ok (r', i', evs')) : P r' i' := by
  induction mods generalizing r i evs with
  | nil =>
    cases h
    exact h0
  | cons m ms ih =>
    obtain ⟨r1, i1, e1, h1, h2⟩ := runModsS_cons_ok h
    exact ih (fun x hx => step x (List.mem_cons_of_mem _ hx)) (step m List.mem_cons_self _ _ _ _ _ h0 h1) h2

theorem runModsS_norc {s : Bool} {names : Names} {mods : List SMod} (hok : ∀ m ∈ mods, m.OK s)
    (hrc : ∀ m ∈ mods, m.isRevcomp = false) {r r' : Read} {i i' : Info} {evs evs' : List Event} (hq : QualOK r)
    (h : runModsS names mods r i evs = .ok (r', i', evs')) :
    SegRel s (zeroCapBases mods) r r' ∧ i'.isRc = i.isRc := by
  induction mods generalizing r i evs with
  | nil =>
    cases h
    exact ⟨.refl s _, rfl⟩
  | cons m ms ih =>
    obtain ⟨r1, i1, e1, h1, h2⟩ := runModsS_cons_ok h
    obtain ⟨a1, a2⟩ := applyS_segRel (hok m List.mem_cons_self) (hrc m List.mem_cons_self) hq h1
    obtain ⟨b1, b2⟩ := ih (fun x hx => hok x (List.mem_cons_of_mem _ hx)) (fun x hx => hrc x (List.mem_cons_of_mem _ hx))
      (a1.qualOK hq) h2
    exact ⟨zeroCapBases_cons m ms ▸ a1.trans b1, b2.trans a2⟩

/-- **The modifier list as a whole.** With at most one reverse-complementing stage, every output read is a slice of
    the input read — of its reverse complement iff `info.is_rc` ends up `True` — with the qualities sliced at the
    same bounds and zero-capped by the zero-cappers in the list; sequence and qualities stay equally long. -/
theorem runModsS_segRel {s : Bool} {names : Names} {mods : List SMod} (hok : ∀ m ∈ mods, m.OK s)
    (hrc : revcompStages mods ≤ 1) {r r' : Read} {i i' : Info} {evs evs' : List Event} (hq : QualOK r)
    (hi : i.isRc ≠ some true) (h : runModsS names mods r i evs = .ok (r', i', evs')) :
    QualOK r' ∧ SegRel s (zeroCapBases mods) (if i'.isRc = some true then r.revcomp else r) r' := by
  induction mods generalizing r i evs with
  | nil =>
    cases h
    rw [if_neg hi]
    exact ⟨hq, .refl s _⟩
  | cons m ms ih =>
    obtain ⟨r1, i1, e1, h1, h2⟩ := runModsS_cons_ok h
    have hok' : ∀ x ∈ ms, x.OK s := fun x hx => hok x (List.mem_cons_of_mem _ hx)
    obtain ⟨hrc1, hrc2⟩ := filter_length_le_one_cons hrc
    rw [zeroCapBases_cons]
    cases hm : m.isRevcomp with
    | true =>
      -- the reverse-complementing stage itself: no further one behind it
      obtain ⟨c, sfx, first, rfl⟩ := SMod.eq_revcomp_of_isRevcomp hm
      have a2 := applyS_revcomp_segRel (hok _ List.mem_cons_self) h1
      have q1 := a2.qualOK (hq.oriented _)
      obtain ⟨b1, b2⟩ := runModsS_norc hok' (hrc1 hm) q1 h2
      rw [b2]
      exact ⟨b1.qualOK q1, a2.trans b1⟩
    | false =>
      obtain ⟨a1, a2⟩ := applyS_segRel (hok m List.mem_cons_self) hm hq h1
      obtain ⟨b1, b2⟩ := ih hok' hrc2 (a1.qualOK hq) (a2 ▸ hi) h2
      refine ⟨b1, ?_⟩
      by_cases hf : i'.isRc = some true
      · rw [if_pos hf] at b2 ⊢
        exact (a1.revcomp hq).trans b2
      · rw [if_neg hf] at b2 ⊢
        exact a1.trans b2

end Cutadapt
