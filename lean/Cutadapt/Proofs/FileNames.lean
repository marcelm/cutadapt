import Cutadapt.Files
/-! File names as lists of characters: which of several known suffixes a name ends in; `outputFormat` away from the
    one case where `--fasta` overrides the name. Core Lean only. -/
namespace Cutadapt.Files

theorem isSuffixOf_comparable [BEq α] [LawfulBEq α] {a b l : List α} (ha : a.isSuffixOf l = true) (hb : b.isSuffixOf l = true) :
    a.isSuffixOf b = true ∨ b.isSuffixOf a = true := by
  simp only [List.isSuffixOf_iff_suffix] at *
  exact (Nat.le_total a.length b.length).imp (List.suffix_of_suffix_length_le ha hb) (List.suffix_of_suffix_length_le hb ha)

theorem eq_of_isSuffixOf_append [BEq α] [LawfulBEq α] {L : List (List α)}
    (hL : ∀ a ∈ L, ∀ b ∈ L, a.isSuffixOf b = true → a = b) {n e e' : List α} (he : e ∈ L) (he' : e' ∈ L)
    (h : e'.isSuffixOf (n ++ e) = true) : e' = e :=
  (isSuffixOf_comparable h (List.isSuffixOf_iff_suffix.mpr (List.suffix_append n e))).elim
    (hL e' he' e he) fun s => (hL e he e' he' s).symm

theorem isSuffixOf_append_eq_false [BEq α] [LawfulBEq α] {e x : List α} (n : List α)
    (h1 : e.isSuffixOf x = false) (h2 : x.isSuffixOf e = false) : e.isSuffixOf (n ++ x) = false :=
  Bool.eq_false_iff.mpr fun h =>
    (isSuffixOf_comparable h (List.isSuffixOf_iff_suffix.mpr (List.suffix_append n x))).elim
      (Bool.eq_false_iff.mp h1) (Bool.eq_false_iff.mp h2)

theorem compressionSuffixes_incomparable :
    ∀ a ∈ compressionSuffixes, ∀ b ∈ compressionSuffixes, a.isSuffixOf b = true → a = b := by decide +kernel

theorem stripCompression_eq_self {m : List Char} (h : ∀ e ∈ compressionSuffixes, e.isSuffixOf m = false) :
    stripCompression m = m := by
  have : compressionSuffixes.find? (fun e => e.isSuffixOf m) = none :=
    List.find?_eq_none.mpr fun e he => by rw [h e he]; exact Bool.false_ne_true
  rw [stripCompression, this]

theorem outputFormat_of_not_forced {path : String} {ff : Bool} (q prox : Bool) (h : path ≠ "-" ∨ ff = false) :
    outputFormat path ff q prox = (formatFromPath path).getD (if q then .fastq else .fasta) := by
  have : (path == "-" && ff) = false := by
    rw [Bool.and_eq_false_iff, beq_eq_false_iff_ne]; exact h
  rw [outputFormat, this]
  cases formatFromPath path <;> rfl

end Cutadapt.Files
