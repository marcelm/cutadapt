import Cutadapt.Spec.Chunks
/-! Occurrences (`Spec.OccursAt`) under the operations on texts that the k-mer finder and the aligner perform:
    slices, concatenation, reversal, a change of alphabet. -/
namespace Cutadapt.Spec
open Cutadapt

theorem OccursAt.transport {m : Sym → Sym → Bool} {w t t' : List Sym} {i i' : Nat} (h : OccursAt m w t i)
    (hlen : i' + w.length ≤ t'.length) (hget : ∀ j, j < w.length → t'[i' + j]? = t[i + j]?) : OccursAt m w t' i' :=
  ⟨hlen, fun j hj => by rw [hget j hj]; exact h.2 j hj⟩

theorem occursAt_of_drop {m : Sym → Sym → Bool} {w t : List Sym} {a i : Nat} (ha : a ≤ t.length)
    (h : OccursAt m w (t.drop a) i) : OccursAt m w t (a + i) :=
  h.transport (by have := h.1; rw [List.length_drop] at this; omega)
    fun j _ => by rw [List.getElem?_drop, Nat.add_assoc]

theorem occursAt_drop {m : Sym → Sym → Bool} {w t : List Sym} {a i : Nat} (h : OccursAt m w t i) (ha : a ≤ i) :
    OccursAt m w (t.drop a) (i - a) :=
  h.transport (by have := h.1; rw [List.length_drop]; omega)
    fun j _ => by rw [List.getElem?_drop]; congr 1; omega

theorem occursAt_of_take {m : Sym → Sym → Bool} {w t : List Sym} {b i : Nat} (h : OccursAt m w (t.take b) i) :
    OccursAt m w t i :=
  have hb := h.1
  h.transport (by rw [List.length_take] at hb; omega)
    fun j hj => by rw [List.length_take] at hb; rw [List.getElem?_take_of_lt (by omega)]

theorem occursAt_take {m : Sym → Sym → Bool} {w t : List Sym} {b i : Nat} (h : OccursAt m w t i) (hb : i + w.length ≤ b) :
    OccursAt m w (t.take b) i :=
  h.transport (by have := h.1; rw [List.length_take]; omega)
    fun j hj => List.getElem?_take_of_lt (by omega)

theorem occursAt_of_seg {m : Sym → Sym → Bool} {w t : List Sym} {a b i : Nat} (hab : a ≤ b) (hb : b ≤ t.length)
    (h : OccursAt m w (seg t a b) i) : OccursAt m w t (a + i) :=
  occursAt_of_take (occursAt_of_drop (by rw [List.length_take]; omega) h)

theorem occursAt_append_left {m : Sym → Sym → Bool} {w t : List Sym} {i : Nat} (u : List Sym) (h : OccursAt m w t i) :
    OccursAt m w (t ++ u) i :=
  h.transport (by have := h.1; rw [List.length_append]; omega)
    fun j hj => List.getElem?_append_left (by have := h.1; omega)

theorem occursAt_append_right {m : Sym → Sym → Bool} {w t : List Sym} {i : Nat} (u : List Sym) (h : OccursAt m w t i) :
    OccursAt m w (u ++ t) (u.length + i) :=
  h.transport (by have := h.1; rw [List.length_append]; omega)
    fun j _ => by rw [List.getElem?_append_right (by omega)]; congr 1; omega

theorem occursAt_reverse {m : Sym → Sym → Bool} {w t : List Sym} {i : Nat} (h : OccursAt m w t i) :
    OccursAt m w.reverse t.reverse (t.length - i - w.length) := by
  obtain ⟨h1, h2⟩ := h
  refine ⟨by simp; omega, fun j hj => ?_⟩
  rw [List.length_reverse] at hj
  obtain ⟨a, c, ha, hc, hac⟩ := h2 (w.length - 1 - j) (by omega)
  refine ⟨a, c, ?_, ?_, hac⟩
  · rw [List.getElem?_reverse hj]; exact ha
  · rw [List.getElem?_reverse (by omega), ← hc]; congr 1; omega

theorem occursAt_of_map {m m' : Sym → Sym → Bool} {f g : Sym → Sym} {w t : List Sym} {i : Nat}
    (hm : ∀ a ∈ w, ∀ c ∈ t, m (f a) (g c) = true → m' a c = true) (h : OccursAt m (w.map f) (t.map g) i) :
    OccursAt m' w t i := by
  obtain ⟨h1, h2⟩ := h
  rw [List.length_map, List.length_map] at h1
  refine ⟨h1, fun j hj => ?_⟩
  obtain ⟨_, _, ha, hc, hac⟩ := h2 j (by rwa [List.length_map])
  rw [List.getElem?_map, Option.map_eq_some_iff] at ha hc
  obtain ⟨a, ha, rfl⟩ := ha
  obtain ⟨c, hc, rfl⟩ := hc
  exact ⟨a, c, ha, hc, hm a (List.mem_of_getElem? ha) c (List.mem_of_getElem? hc) hac⟩

end Cutadapt.Spec
