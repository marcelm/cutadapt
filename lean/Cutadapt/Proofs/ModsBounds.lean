import Cutadapt.Properties.C01
import Cutadapt.Properties.C08
import Cutadapt.Proofs.ModsRounds
/-! Bridge to C01: matches of well-formed adapters have in-bounds coordinates, so the hypothesis `AdaptersInBounds`
    of the mask / lowercase theorems is discharged by the soundness of `match_to`. Core Lean only. -/
namespace Cutadapt
open Cutadapt.Adapters

/-- every single adapter in the matchable is well-formed in the sense of C01 (as `mkAdapter` builds them) -/
def Matchable.WF : Matchable → Prop
  | .single a => C01.AdapterWF a
  | .linked f b _ _ _ => C01.AdapterWF f ∧ C01.AdapterWF b
  | .indexed ix _ =>
    -- the index object is what `AdapterIndex.__init__` builds from its (well-formed, wildcard-free) adapters
    ix = Index.makeIndex Index.hashOps ix.adapters ix.isPrefix ∧ ∀ a ∈ ix.adapters, C08.IsACGT a.seq ∧ C01.AdapterWF a

theorem matchTo_inBounds {a : Adapter} (h : C01.AdapterWF a) {s : Bytes} {mt : SingleMatch}
    (hm : Adapters.matchTo a s = some mt) : MatchRec.InBounds ⟨mt, s⟩ := by
  have := (C01.matchTo_sound a s h mt hm).bounds
  exact ⟨this.2.2.1, this.2.2.2⟩

theorem adaptersInBounds_of_wf (ads : List Matchable) (h : ∀ a ∈ ads, a.WF) : AdaptersInBounds ads := by
  intro a ha j s m hm p hp
  have hwf := h a ha
  cases a with
  | single ad =>
    obtain ⟨mt, hmt, rfl⟩ := Option.map_eq_some_iff.mp hm
    cases List.mem_singleton.mp hp
    exact matchTo_inBounds hwf hmt
  | indexed ix ids =>
    obtain ⟨hix, hads⟩ := hwf
    obtain ⟨im, him, rfl⟩ := Option.map_eq_some_iff.mp hm
    cases List.mem_singleton.mp hp
    rw [hix] at him
    have hre : Index.RealignInside ix.adapters := fun a ha affix mt hmt => matchTo_inBounds (hads a ha).2 hmt
    obtain ⟨c0, c1, c2, _⟩ := C08.index_coordinates_in_read Index.hashOps C08.dict_instances_lawful.2 ix.adapters ix.isPrefix s
      (fun a ha => (hads a ha).1) hre im him
    refine ⟨?_, c2⟩
    show (Matchable.ofIndexMatch ix.isPrefix im).rstart ≤ (Matchable.ofIndexMatch ix.isPrefix im).rstop
    simp only [Matchable.ofIndexMatch]
    omega
  | linked f b fr br nm =>
    obtain ⟨fm, bm, s', hf, _, hb, rfl, _⟩ := Matchable.matchTo_linked hm
    rcases List.mem_append.mp hp with hp | hp
    · cases fm with
      | none => cases hp
      | some x =>
        cases List.mem_singleton.mp hp
        exact matchTo_inBounds hwf.1 hf
    · cases bm with
      | none => cases hp
      | some y =>
        cases List.mem_singleton.mp hp
        exact matchTo_inBounds hwf.2 hb

end Cutadapt
