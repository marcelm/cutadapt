import Cutadapt.Runner
/-! What `serialRun` computes. -/
namespace Cutadapt.Runner
variable {Chunk Stats Fault : Type} {cfg : Config Chunk Stats Fault}

theorem drop_cons_inv {α : Type} {l : List α} {n : Nat} {c : α} {cs : List α} (h : l.drop n = c :: cs) :
    l[n]? = some c ∧ l.drop (n + 1) = cs ∧ n < l.length := by
  refine ⟨?_, ?_, Nat.lt_of_not_le fun hge => ?_⟩
  · rw [← Nat.add_zero n, ← List.getElem?_drop, h]
    rfl
  · rw [← List.drop_drop, h]
    rfl
  · rw [List.drop_eq_nil_of_le hge] at h
    cases h

/-- what `serialRun` computes: it processes the chunks before the first faulty one -/
structure SerialSpec (cfg : Config Chunk Stats Fault) (R : SerialResult Stats) : Prop where
  done_le : R.done ≤ cfg.chunks.length
  okBefore : ∀ i, i < R.done → (outOf cfg i).isSome = true
  written : ∀ f, R.written f = concatRange (fun i => outData cfg i f) R.done
  stats : R.stats = sumRange cfg.add cfg.zero (outStats cfg) R.done
  terminal : R.outcome = .ok ∨ R.outcome = .failed
  ok_iff : R.outcome = .ok ↔ (R.done = cfg.chunks.length ∧ cfg.readerFault = false)
  stopped : R.done < cfg.chunks.length → outOf cfg R.done = none

/-- if no chunk is faulty, all are processed -/
theorem SerialSpec.done_eq {R : SerialResult Stats} (h : SerialSpec cfg R)
    (hall : ∀ i, i < cfg.chunks.length → (outOf cfg i).isSome = true) : R.done = cfg.chunks.length := by
  rcases Nat.lt_or_ge R.done cfg.chunks.length with hlt | hge
  · have := hall _ hlt
    rw [h.stopped hlt] at this; cases this
  · exact Nat.le_antisymm h.done_le hge

theorem serialGo_spec : ∀ (cs : List Chunk) (r : SerialResult Stats),
    cfg.chunks.drop r.done = cs → r.done ≤ cfg.chunks.length →
    (∀ i, i < r.done → (outOf cfg i).isSome = true) →
    (∀ f, r.written f = concatRange (fun i => outData cfg i f) r.done) →
    r.stats = sumRange cfg.add cfg.zero (outStats cfg) r.done →
    SerialSpec cfg (serialGo cfg cs r) := by
  intro cs
  induction cs with
  | nil =>
    intro r hdrop hle hok hw hst
    have hdone : r.done = cfg.chunks.length := Nat.le_antisymm hle (List.drop_eq_nil_iff.mp hdrop)
    simp only [serialGo]
    refine ⟨hle, hok, hw, hst, ?_, ?_, fun h => absurd h (Nat.not_lt_of_le (Nat.le_of_eq hdone.symm))⟩
    · cases cfg.readerFault <;> simp
    · cases hrf : cfg.readerFault <;> simp [hdone]
  | cons c cs ih =>
    intro r hdrop hle hok hw hst
    obtain ⟨hget, hdrop', hlt⟩ := drop_cons_inv hdrop
    simp only [serialGo]
    cases hp : cfg.process c with
    | error e =>
      simp only
      refine ⟨hle, hok, hw, hst, Or.inr rfl, ?_, fun _ => by simp [outOf, hget, hp]⟩
      constructor
      · intro h; cases h
      · exact fun h => absurd h.1 (Nat.ne_of_lt hlt)
    | ok r' =>
      obtain ⟨d, st⟩ := r'
      simp only
      have hout : outOf cfg r.done = some (d, st) := by simp [outOf, hget, hp]
      apply ih
      · exact hdrop'
      · exact hlt
      · intro i hi
        have hi : i < r.done + 1 := hi
        by_cases he : i = r.done
        · subst he; simp [hout]
        · exact hok i (Nat.lt_of_le_of_ne (Nat.le_of_lt_succ hi) he)
      · intro f
        show r.written f ++ d.getD f [] = concatRange _ (r.done + 1)
        simp only [concatRange, hw f, outData, hout]
      · show cfg.add r.stats st = sumRange _ _ _ (r.done + 1)
        simp only [sumRange, hst, outStats, hout]

theorem serialRun_spec (cfg : Config Chunk Stats Fault) : SerialSpec cfg (serialRun cfg) := by
  unfold serialRun
  apply serialGo_spec
  · rfl
  · exact Nat.zero_le _
  · intro i hi; exact absurd hi (Nat.not_lt_zero _)
  · intro f; rfl
  · rfl

end Cutadapt.Runner
