import Cutadapt.Kmer
import Cutadapt.Proofs.KmerOccurs
/-! Correctness of the bit-parallel multi-word search of `_kmer_finder.pyx` (`shift_and_multiple_is_present`). -/
namespace Cutadapt.Kmer
open Cutadapt.Spec (OccursAt)

def bit (x : UInt64) (i : Nat) : Bool := x.toBitVec.getLsbD i

theorem bit_or (x y : UInt64) (i : Nat) : bit (x ||| y) i = (bit x i || bit y i) := by simp [bit]
theorem bit_and (x y : UInt64) (i : Nat) : bit (x &&& y) i = (bit x i && bit y i) := by simp [bit]
theorem bit_zero (i : Nat) : bit 0 i = false := by simp [bit]
theorem bit_ge (x : UInt64) (i : Nat) (h : 64 ≤ i) : bit x i = false := by
  simp [bit]; exact BitVec.getLsbD_of_ge _ _ h

theorem bit_shl1 (x : UInt64) (i : Nat) : bit (x <<< 1) i = (decide (i < 64) && decide (1 ≤ i) && bit x (i-1)) := by
  cases i <;> simp [bit]

theorem bit_bitAt (p i : Nat) (hp : p < 64) : bit (bitAt p) i = decide (i = p) := by
  simp only [bit, bitAt]
  rw [Bool.eq_iff_iff]
  simp [Nat.mod_eq_of_lt hp]
  omega

theorem ne_zero_iff (x : UInt64) : x ≠ 0 ↔ ∃ i, i < 64 ∧ bit x i = true := by
  constructor
  · intro h
    apply Classical.byContradiction
    intro hc
    apply h
    apply UInt64.toBitVec_inj.mp
    apply BitVec.eq_of_getLsbD_eq
    intro i hi
    cases hb : bit x i
    · simpa [bit] using hb
    · exact absurd ⟨i, hi, hb⟩ hc
  · rintro ⟨i, _, hb⟩ rfl
    rw [bit_zero] at hb
    cases hb

/-- the words packed from bit `off` on, each with the bit at which it starts -/
def layout : List Bytes → Nat → List (Bytes × Nat)
  | [], _ => []
  | w :: ws, off => (w, off) :: layout ws (off + w.length)

theorem mem_layout_iff {ws : List Bytes} {off : Nat} {w : Bytes} {o : Nat} :
    (w, o) ∈ layout ws off ↔ ∃ pre post, ws = pre ++ w :: post ∧ o = off + pre.flatten.length := by
  induction ws generalizing off with
  | nil => simp [layout]
  | cons w' ws ih =>
    rw [layout, List.mem_cons, ih]
    constructor
    · rintro (h | ⟨pre, post, rfl, rfl⟩)
      · cases h; exact ⟨[], ws, rfl, rfl⟩
      · exact ⟨w' :: pre, post, rfl, by rw [List.flatten_cons, List.length_append, Nat.add_assoc]⟩
    · rintro ⟨pre, post, h, rfl⟩
      cases pre with
      | nil => cases h; exact Or.inl rfl
      | cons a pre =>
        cases h
        exact Or.inr ⟨pre, post, rfl, by rw [List.flatten_cons, List.length_append, Nat.add_assoc]⟩

theorem layout_ge {ws : List Bytes} {off : Nat} {w : Bytes} {o : Nat} (h : (w, o) ∈ layout ws off) : off ≤ o := by
  obtain ⟨_, _, _, rfl⟩ := mem_layout_iff.mp h
  exact Nat.le_add_right _ _

theorem layout_end_le {ws : List Bytes} {off : Nat} {w : Bytes} {o : Nat} (h : (w, o) ∈ layout ws off) :
    o + w.length ≤ off + ws.flatten.length := by
  obtain ⟨pre, post, rfl, rfl⟩ := mem_layout_iff.mp h
  rw [List.flatten_append, List.flatten_cons, List.length_append, List.length_append]
  omega

theorem layout_mem {ws : List Bytes} {off : Nat} {w : Bytes} {o : Nat} (h : (w, o) ∈ layout ws off) : w ∈ ws := by
  obtain ⟨pre, post, rfl, _⟩ := mem_layout_iff.mp h
  exact List.mem_append_right _ List.mem_cons_self

theorem mem_layout {ws : List Bytes} {w : Bytes} (off : Nat) (h : w ∈ ws) : ∃ o, (w, o) ∈ layout ws off := by
  obtain ⟨pre, post, rfl⟩ := List.append_of_mem h
  exact ⟨_, mem_layout_iff.mpr ⟨pre, post, rfl, rfl⟩⟩

theorem layout_getElem {ws : List Bytes} {off : Nat} {w : Bytes} {o : Nat} (h : (w, o) ∈ layout ws off) (i : Nat)
    (hi : i < w.length) : ws.flatten[o - off + i]? = w[i]? := by
  obtain ⟨pre, post, rfl, rfl⟩ := mem_layout_iff.mp h
  rw [List.flatten_append, List.flatten_cons, Nat.add_sub_cancel_left, List.getElem?_append_right (Nat.le_add_right _ _),
    Nat.add_sub_cancel_left, List.getElem?_append_left hi]

theorem layout_next_start {ws : List Bytes} {off : Nat} {w w' : Bytes} {o q : Nat}
    (h : (w, o) ∈ layout ws off) (hq : (w', q) ∈ layout ws off) (hlt : o < q) : o + w.length ≤ q := by
  induction ws generalizing off with
  | nil => simp [layout] at h
  | cons w0 ws ih =>
    simp only [layout, List.mem_cons] at h hq
    rcases h with h | h <;> rcases hq with hq | hq
    · cases h; cases hq; omega
    · cases h; have := layout_ge hq; omega
    · cases hq; have := layout_ge h; omega
    · exact ih h hq

theorem bit_initMask (ws : List Bytes) (off : Nat) (hne : ∀ w ∈ ws, w ≠ []) (hlen : off + ws.flatten.length ≤ 64)
    (p : Nat) : bit (initMaskFrom ws off) p = true ↔ ∃ w, (w, p) ∈ layout ws off := by
  induction ws generalizing off with
  | nil => simp [initMaskFrom, layout, bit_zero]
  | cons w ws ih =>
    have hw : w ≠ [] := hne w (by simp)
    have hwl : 0 < w.length := List.length_pos_iff.mpr hw
    simp only [List.flatten_cons, List.length_append] at hlen
    simp only [initMaskFrom, layout, bit_or, Bool.or_eq_true, List.mem_cons]
    rw [bit_bitAt off p (by omega), ih (off + w.length) (fun w' hw' => hne w' (by simp [hw'])) (by omega)]
    constructor
    · rintro (h | ⟨w', h⟩)
      · exact ⟨w, Or.inl (by simp at h; simp [h])⟩
      · exact ⟨w', Or.inr h⟩
    · rintro ⟨w', h | h⟩
      · left; cases h; simp
      · right; exact ⟨w', h⟩

theorem bit_foundMask (ws : List Bytes) (off : Nat) (hne : ∀ w ∈ ws, w ≠ []) (hlen : off + ws.flatten.length ≤ 64)
    (p : Nat) : bit (foundMaskFrom ws off) p = true ↔ ∃ w o, (w, o) ∈ layout ws off ∧ p + 1 = o + w.length := by
  induction ws generalizing off with
  | nil => simp [foundMaskFrom, layout, bit_zero]
  | cons w ws ih =>
    have hw : w ≠ [] := hne w (by simp)
    have hwl : 0 < w.length := List.length_pos_iff.mpr hw
    simp only [List.flatten_cons, List.length_append] at hlen
    simp only [foundMaskFrom, layout, bit_or, Bool.or_eq_true, List.mem_cons]
    rw [bit_bitAt (off + w.length - 1) p (by omega), ih (off + w.length) (fun w' hw' => hne w' (by simp [hw'])) (by omega)]
    constructor
    · rintro (h | ⟨w', o, h, he⟩)
      · exact ⟨w, off, Or.inl rfl, by simp at h; omega⟩
      · exact ⟨w', o, Or.inr h, he⟩
    · rintro ⟨w', o, h | h, he⟩
      · left; cases h; simp; omega
      · right; exact ⟨w', o, h, he⟩

theorem bit_maskFrom (m : UInt8 → UInt8 → Bool) (cat : Bytes) (pos : Nat) (c : UInt8) (hlen : pos + cat.length ≤ 64)
    (p : Nat) : bit (maskFrom m cat pos c) p = true ↔ ∃ k a, p = pos + k ∧ cat[k]? = some a ∧ m a c = true := by
  induction cat generalizing pos with
  | nil => simp [maskFrom, bit_zero]
  | cons a cat ih =>
    rw [List.length_cons] at hlen
    rw [maskFrom, bit_or, Bool.or_eq_true, ih (pos + 1) (by omega)]
    constructor
    · rintro (h | ⟨k, b, hp, h2, h3⟩)
      · split at h
        · rename_i hm
          rw [bit_bitAt pos p (by omega), decide_eq_true_eq] at h
          exact ⟨0, a, h, rfl, hm⟩
        · rw [bit_zero] at h; cases h
      · exact ⟨k + 1, b, by rw [hp, Nat.add_assoc, Nat.add_comm 1], h2, h3⟩
    · rintro ⟨k, b, hp, h2, h3⟩
      cases k with
      | zero =>
        cases h2
        rw [if_pos h3, bit_bitAt pos p (by omega), decide_eq_true_eq]
        exact Or.inl hp
      | succ k => exact Or.inr ⟨k, b, by rw [hp, Nat.add_assoc, Nat.add_comm 1], h2, h3⟩

/-- the register as a predicate: `St rx p` ⇔ bit `p` is set after consuming the characters `rx` (latest first), when `S`
    holds of the bits the init mask sets -/
def St (m : UInt8 → UInt8 → Bool) (cat : Bytes) (S : Nat → Prop) : Bytes → Nat → Prop
  | [], _ => False
  | c :: rx, p => (∃ a, cat[p]? = some a ∧ m a c = true) ∧ (S p ∨ (1 ≤ p ∧ St m cat S rx (p - 1)))

theorem St_of_match {m : UInt8 → UInt8 → Bool} {cat : Bytes} {S : Nat → Prop} (q : Nat) (hS : S q) :
    ∀ (l : Nat) (rx : Bytes), (∀ j, j ≤ l → ∃ a c, cat[q + (l - j)]? = some a ∧ rx[j]? = some c ∧ m a c = true) →
      St m cat S rx (q + l)
  | l, [], hm => by
    obtain ⟨_, _, _, hc, _⟩ := hm 0 (Nat.zero_le l)
    cases hc
  | 0, c :: rx, hm => by
    obtain ⟨a, c', ha, hc, hac⟩ := hm 0 (Nat.le_refl 0)
    cases hc
    exact ⟨⟨a, ha, hac⟩, Or.inl hS⟩
  | l + 1, c :: rx, hm => by
    obtain ⟨a, c', ha, hc, hac⟩ := hm 0 (Nat.zero_le _)
    cases hc
    refine ⟨⟨a, ha, hac⟩, Or.inr ⟨Nat.succ_le_succ (Nat.zero_le _), St_of_match q hS l rx fun j hj => ?_⟩⟩
    obtain ⟨a', c', ha', hc', hac'⟩ := hm (j + 1) (Nat.succ_le_succ hj)
    rw [Nat.add_sub_add_right] at ha'
    exact ⟨a', c', ha', hc', hac'⟩

/-- The converse needs that no start bit lies strictly inside the word: then bit `q + l` can only have come up by the shift,
    from a match that began at `q`. Words are packed back to back (`layout_next_start`), so this holds for a word's bits. -/
theorem match_of_St {m : UInt8 → UInt8 → Bool} {cat : Bytes} {S : Nat → Prop} (q : Nat) :
    ∀ (l : Nat) (rx : Bytes), St m cat S rx (q + l) → (∀ k, k < l → ¬ S (q + (k + 1))) →
      ∀ j, j ≤ l → ∃ a c, cat[q + (l - j)]? = some a ∧ rx[j]? = some c ∧ m a c = true
  | _, [], h, _ => h.elim
  | 0, c :: rx, ⟨⟨a, ha, hac⟩, _⟩, _ => fun j hj => by
    cases Nat.le_zero.mp hj
    exact ⟨a, c, ha, rfl, hac⟩
  | l + 1, c :: rx, ⟨⟨a, ha, hac⟩, hrest⟩, hno => fun j hj => by
    cases j with
    | zero => exact ⟨a, c, ha, rfl, hac⟩
    | succ j =>
      rcases hrest with hS | ⟨_, hst⟩
      · exact absurd hS (hno l (Nat.lt_succ_self l))
      · obtain ⟨a', c', ha', hc', hac'⟩ :=
          match_of_St q l rx hst (fun k hk => hno k (Nat.lt_succ_of_lt hk)) j (Nat.le_of_succ_le_succ hj)
        exact ⟨a', c', by rw [Nat.add_sub_add_right]; exact ha', hc', hac'⟩

/-- some register bit at the end of a word is set -/
def Hit (m : UInt8 → UInt8 → Bool) (ws : List Bytes) (rx : Bytes) : Prop :=
  ∃ w o, (w, o) ∈ layout ws 0 ∧ St m ws.flatten (fun p => ∃ w', (w', p) ∈ layout ws 0) rx (o + w.length - 1)

theorem hit_iff (m : UInt8 → UInt8 → Bool) (ws : List Bytes) (hne : ∀ w ∈ ws, w ≠ []) (t : Bytes) :
    Hit m ws t.reverse ↔ ∃ w ∈ ws, OccursAt m w t (t.length - w.length) := by
  constructor
  · rintro ⟨w, o, hmem, hst⟩
    obtain ⟨l, hl⟩ := Nat.exists_eq_succ_of_ne_zero (mt List.length_eq_zero_iff.mp (hne w (layout_mem hmem)))
    rw [hl, Nat.add_succ_sub_one] at hst
    have hm := match_of_St o l t.reverse hst fun k hk ⟨w', hq⟩ => by
      have := layout_next_start hmem hq (Nat.lt_add_of_pos_right (Nat.succ_pos k))
      omega
    have hlen : l < t.length := by
      obtain ⟨_, c, _, hc, _⟩ := hm l (Nat.le_refl l)
      simpa using (List.getElem?_eq_some_iff.mp hc).1
    refine ⟨w, layout_mem hmem, by omega, fun j hj => ?_⟩
    have hjl : j ≤ l := by omega
    obtain ⟨a, c, ha, hc, hmac⟩ := hm (l - j) (Nat.sub_le l j)
    rw [Nat.sub_sub_self hjl, ← Nat.sub_zero o, layout_getElem hmem j hj] at ha
    rw [List.getElem?_reverse (by omega), show t.length - 1 - (l - j) = t.length - (l + 1) + j by omega] at hc
    rw [hl]
    exact ⟨a, c, ha, hc, hmac⟩
  · rintro ⟨w, hw, hlen, hocc⟩
    obtain ⟨o, hmem⟩ := mem_layout 0 hw
    obtain ⟨l, hl⟩ := Nat.exists_eq_succ_of_ne_zero (mt List.length_eq_zero_iff.mp (hne w hw))
    refine ⟨w, o, hmem, ?_⟩
    rw [hl, Nat.add_succ_sub_one]
    refine St_of_match o ⟨w, hmem⟩ l t.reverse fun j hj => ?_
    obtain ⟨a, c, ha, hc, hmac⟩ := hocc (l - j) (by omega)
    refine ⟨a, c, ?_, ?_, hmac⟩
    · rw [← Nat.sub_zero o, layout_getElem hmem (l - j) (by omega)]
      exact ha
    · rw [List.getElem?_reverse (by omega), ← hc, hl]; congr 1; omega

def Inv (m : UInt8 → UInt8 → Bool) (ws : List Bytes) (rx : Bytes) (R : UInt64) : Prop :=
  ∀ p, p < 64 → (bit R p = true ↔ St m ws.flatten (fun p => ∃ w', (w', p) ∈ layout ws 0) rx p)

theorem inv_step (m : UInt8 → UInt8 → Bool) (ws : List Bytes) (hne : ∀ w ∈ ws, w ≠ []) (hlen : ws.flatten.length ≤ 64)
    (rx : Bytes) (R : UInt64) (c : UInt8) (h : Inv m ws rx R) :
    Inv m ws (c :: rx) (((R <<< 1) ||| initMaskFrom ws 0) &&& maskFrom m ws.flatten 0 c) := by
  intro p hp
  rw [bit_and, bit_or, bit_shl1]
  simp only [Bool.and_eq_true, Bool.or_eq_true, decide_eq_true_eq]
  rw [bit_maskFrom m ws.flatten 0 c (by omega) p, bit_initMask ws 0 hne (by omega) p]
  simp only [St, Nat.zero_add, exists_and_left, exists_eq_left']
  constructor
  · rintro ⟨h1 | h1, h2⟩
    · obtain ⟨⟨_, hp1⟩, hb⟩ := h1
      exact ⟨h2, Or.inr ⟨hp1, (h (p - 1) (by omega)).mp hb⟩⟩
    · exact ⟨h2, Or.inl h1⟩
  · rintro ⟨h2, h1 | ⟨hp1, hst⟩⟩
    · exact ⟨Or.inr h1, h2⟩
    · exact ⟨Or.inl ⟨⟨hp, hp1⟩, (h (p - 1) (by omega)).mpr hst⟩, h2⟩

theorem found_iff (m : UInt8 → UInt8 → Bool) (ws : List Bytes) (hne : ∀ w ∈ ws, w ≠ []) (hlen : ws.flatten.length ≤ 64)
    (rx : Bytes) (R : UInt64) (h : Inv m ws rx R) :
    ((R &&& foundMaskFrom ws 0 != 0) = true) ↔ Hit m ws rx := by
  rw [bne_iff_ne, ne_zero_iff]
  constructor
  · rintro ⟨p, hp, hb⟩
    rw [bit_and, Bool.and_eq_true, bit_foundMask ws 0 hne (by omega) p] at hb
    obtain ⟨hR, w, o, hmem, he⟩ := hb
    refine ⟨w, o, hmem, ?_⟩
    rw [show o + w.length - 1 = p by omega]
    exact (h p hp).mp hR
  · rintro ⟨w, o, hmem, hst⟩
    have hw : 0 < w.length := List.length_pos_iff.mpr (hne w (layout_mem hmem))
    have hle := layout_end_le hmem
    have hp : o + w.length - 1 < 64 := by omega
    refine ⟨_, hp, ?_⟩
    rw [bit_and, (h _ hp).mpr hst, Bool.true_and]
    exact (bit_foundMask ws 0 hne (by omega) _).mpr ⟨w, o, hmem, by omega⟩

theorem shiftAnd_loop (m : UInt8 → UInt8 → Bool) (ws : List Bytes) (hne : ∀ w ∈ ws, w ≠ [])
    (hlen : ws.flatten.length ≤ 64) (rest rx : Bytes) (R : UInt64) (h : Inv m ws rx R) :
    shiftAnd (maskFrom m ws.flatten 0) (initMaskFrom ws 0) (foundMaskFrom ws 0) rest R = true ↔
      ∃ k, k < rest.length ∧ Hit m ws ((rest.take (k + 1)).reverse ++ rx) := by
  induction rest generalizing rx R with
  | nil => simp [shiftAnd]
  | cons c cs ih =>
    have hinv := inv_step m ws hne hlen rx R c h
    have hf := found_iff m ws hne hlen (c :: rx) _ hinv
    simp only [shiftAnd]
    by_cases hhit : Hit m ws (c :: rx)
    · rw [if_pos (hf.mpr hhit)]
      simp only [true_iff]
      exact ⟨0, by simp, by simpa using hhit⟩
    · rw [if_neg (fun hh => hhit (hf.mp hh)), ih (c :: rx) _ hinv]
      constructor
      · rintro ⟨k, hk, hh⟩
        exact ⟨k + 1, Nat.succ_lt_succ hk, by simpa [List.take_succ_cons] using hh⟩
      · rintro ⟨k, hk, hh⟩
        cases k with
        | zero => exact absurd (by simpa using hh) hhit
        | succ k => exact ⟨k, Nat.lt_of_succ_lt_succ hk, by simpa [List.take_succ_cons] using hh⟩

theorem shiftAnd_correct (m : UInt8 → UInt8 → Bool) (ws : List Bytes) (hne : ∀ w ∈ ws, w ≠ [])
    (hlen : ws.flatten.length ≤ 64) (window : Bytes) :
    shiftAnd (maskFrom m ws.flatten 0) (initMaskFrom ws 0) (foundMaskFrom ws 0) window 0 = true ↔
      ∃ w ∈ ws, ∃ i, OccursAt m w window i := by
  rw [shiftAnd_loop m ws hne hlen window [] 0 (by intro p _; simp [bit_zero, St])]
  simp only [List.append_nil, hit_iff m ws hne]
  constructor
  · rintro ⟨k, _, w, hw, hocc⟩
    exact ⟨w, hw, _, Spec.occursAt_of_take hocc⟩
  · rintro ⟨w, hw, i, hocc⟩
    have hwl : 0 < w.length := List.length_pos_iff.mpr (hne w hw)
    have hle := hocc.1
    have htl : (window.take (i + w.length - 1 + 1)).length = i + w.length := by rw [List.length_take]; omega
    refine ⟨i + w.length - 1, by omega, w, hw, ?_⟩
    rw [htl, Nat.add_sub_cancel]
    exact Spec.occursAt_take hocc (by omega)

end Cutadapt.Kmer
