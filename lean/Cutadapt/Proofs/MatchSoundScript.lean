import Cutadapt.Align
import Cutadapt.Spec.Occurrence
import Cutadapt.Proofs.Script
import Cutadapt.Proofs.Seg
/-! C01, part 2: what the documented vocabulary needs beyond edit scripts as such: reading a script of encoded strings
    as a script of the strings themselves, the effective length, Hamming distance against scripts. -/
namespace Cutadapt.MatchSound
open Cutadapt Cutadapt.Align Cutadapt.Spec Cutadapt.Generated

/-- the converse of `script_map` -/
theorem script_unmap (f g : Sym → Sym) (s : List Op) : ∀ (xs ys : List Sym),
    lhs s = xs.map f → rhs s = ys.map g → ∃ s', s'.map (Op.map f g) = s ∧ lhs s' = xs ∧ rhs s' = ys := by
  induction s with
  | nil =>
    intro xs ys hl hr
    obtain rfl : xs = [] := by simpa using hl.symm
    obtain rfl : ys = [] := by simpa using hr.symm
    exact ⟨[], rfl, rfl, rfl⟩
  | cons o s ih =>
    intro xs ys hl hr
    cases o with
    | sub r q =>
      obtain ⟨x, xs, rfl, rfl, hxs⟩ := List.map_eq_cons_iff.mp hl.symm
      obtain ⟨y, ys, rfl, rfl, hys⟩ := List.map_eq_cons_iff.mp hr.symm
      obtain ⟨s', rfl, rfl, rfl⟩ := ih xs ys hxs.symm hys.symm
      exact ⟨.sub x y :: s', rfl, by simp [Op.lhs], by simp [Op.rhs]⟩
    | del r =>
      obtain ⟨x, xs, rfl, rfl, hxs⟩ := List.map_eq_cons_iff.mp hl.symm
      obtain ⟨s', rfl, rfl, rfl⟩ := ih xs ys hxs.symm hr
      exact ⟨.del x :: s', rfl, by simp [Op.lhs], by simp [Op.rhs]⟩
    | ins q =>
      obtain ⟨y, ys, rfl, rfl, hys⟩ := List.map_eq_cons_iff.mp hr.symm
      obtain ⟨s', rfl, rfl, rfl⟩ := ih xs ys hl hys.symm
      exact ⟨.ins y :: s', rfl, by simp [Op.lhs], by simp [Op.rhs]⟩

/-- `script_map` and `script_unmap` together; `P` is what is said of the cost -/
theorem exists_script_map (f g : Sym → Sym) (eq eq' : Sym → Sym → Bool) (c : Nat) (xs ys : List Sym)
    (h : ∀ x ∈ xs, ∀ y, eq' x y = eq (f x) (g y)) (P : Nat → Prop) :
    (∃ s, lhs s = xs.map f ∧ rhs s = ys.map g ∧ P (cost eq c s)) ↔
      ∃ s, lhs s = xs ∧ rhs s = ys ∧ P (cost eq' c s) := by
  constructor
  · rintro ⟨s, hl, hr, hc⟩
    obtain ⟨s', rfl, h1, h2⟩ := script_unmap f g s xs ys hl hr
    rw [(script_map f g eq eq' c s' (by rw [h1]; exact h)).2.2] at hc
    exact ⟨s', h1, h2, hc⟩
  · rintro ⟨s, rfl, rfl, hc⟩
    obtain ⟨h1, h2, h3⟩ := script_map f g eq eq' c s h
    exact ⟨_, h1, h2, by rw [h3]; exact hc⟩

theorem filter_split (p : α → Bool) : ∀ (l : List α), (l.filter p).length + (l.filter (fun x => !p x)).length = l.length
  | [] => rfl
  | x :: l => by
    have := filter_split p l
    by_cases h : p x = true <;> simp [h] <;> omega

theorem nCount_split (ref : List UInt8) (a b : Nat) (hab : a ≤ b) :
    nCount ref b = nCount ref a + ((seg ref a b).filter isN).length := by
  unfold nCount seg
  have h1 : ref.take a = (ref.take b).take a := by rw [List.take_take, Nat.min_eq_left hab]
  rw [h1, ← List.length_append, ← List.filter_append, List.take_append_drop]

/-- the model's effective length (prefix counts of N) is the documented one -/
theorem align_effLen_eq (cfg : Cfg) (ref : List UInt8) (a b : Nat) (hab : a ≤ b) (hb : b ≤ ref.length) :
    Align.effLen cfg ref ref.length a b (b - a) = Spec.effLen cfg.wildRef ref a b := by
  unfold Align.effLen Spec.effLen
  split
  · have h1 := filter_split isN (seg ref a b)
    have h2 := nCount_split ref a b hab
    have h3 := seg_length' ref a b hb
    show _ = ((seg ref a b).filter fun x => !isN x).length
    split
    · omega
    · obtain rfl : a = 0 := by omega
      obtain rfl : b = ref.length := by omega
      have : nCount ref 0 = 0 := rfl
      omega
  · rfl

theorem spec_effLen_reverse (aw : Bool) (ref : List UInt8) (a b : Nat) (hab : a ≤ b) (hb : b ≤ ref.length) :
    Spec.effLen aw ref.reverse a b = Spec.effLen aw ref (ref.length - b) (ref.length - a) := by
  unfold Spec.effLen
  split
  · rw [seg_reverse_of_le _ _ _ hab hb, List.filter_reverse, List.length_reverse]
  · omega

theorem spec_effLen_le (aw : Bool) (seq : List UInt8) (a b : Nat) (hb : b ≤ seq.length) :
    Spec.effLen aw seq a b ≤ b - a := by
  unfold Spec.effLen
  split
  · exact Nat.le_trans (List.length_filter_le _ _) (Nat.le_of_eq (seg_length' _ _ _ hb))
  · exact Nat.le_refl _

theorem mismatches_eq_hamming (ascii : Bool) : ∀ (xs ys : List Sym),
    mismatches ascii xs ys = hamming (charsEqual ascii) xs ys
  | [], _ => by simp [mismatches, hamming]
  | _ :: _, [] => by simp [mismatches, hamming]
  | x :: xs, y :: ys => by simp only [mismatches, hamming, mismatches_eq_hamming ascii xs ys]

theorem hamming_map (f g : Sym → Sym) (eq eq' : Sym → Sym → Bool) : ∀ (xs ys : List Sym),
    (∀ x ∈ xs, ∀ y, eq' x y = eq (f x) (g y)) → hamming eq (xs.map f) (ys.map g) = hamming eq' xs ys
  | [], _, _ => by simp [hamming]
  | _ :: _, [], _ => by simp [hamming]
  | x :: xs, y :: ys, h => by
    simp only [List.map_cons, hamming, h x (List.mem_cons_self ..) y,
      hamming_map f g eq eq' xs ys fun x' hx' => h x' (List.mem_cons_of_mem _ hx')]

theorem hamming_take (eq : Sym → Sym → Bool) : ∀ (xs ys : List Sym), hamming eq xs ys = hamming eq xs (ys.take xs.length)
  | [], _ => by simp [hamming]
  | _ :: _, [] => by simp [hamming]
  | x :: xs, y :: ys => by
    simp only [hamming, List.length_cons, List.take_succ_cons, ← hamming_take eq xs ys]

theorem hamming_zero_pointwise (eq : Sym → Sym → Bool) : ∀ (xs ys : List Sym), xs.length = ys.length →
    hamming eq xs ys = 0 → ∀ t, t < xs.length → eq (xs.getD t 0) (ys.getD t 0) = true
  | [], [], _, _, t, ht => by simp at ht
  | [], _ :: _, h, _, _, _ => by simp at h
  | _ :: _, [], h, _, _, _ => by simp at h
  | x :: xs, y :: ys, hl, hh, t, ht => by
    simp only [hamming] at hh
    cases t with
    | zero =>
      simp only [List.getD_cons_zero]
      cases hxy : eq x y
      · rw [hxy] at hh; simp at hh
      · rfl
    | succ t =>
      simp only [List.getD_cons_succ]
      exact hamming_zero_pointwise eq xs ys (by simpa using hl) (by omega) t (by simpa using ht)

theorem hamming_snoc (eq : Sym → Sym → Bool) : ∀ (xs ys : List Sym) (x y : Sym), xs.length = ys.length →
    hamming eq (xs ++ [x]) (ys ++ [y]) = hamming eq xs ys + (if eq x y then 0 else 1)
  | [], [], x, y, _ => by simp [hamming]
  | [], _ :: _, _, _, h => by simp at h
  | _ :: _, [], _, _, h => by simp at h
  | a :: xs, b :: ys, x, y, h => by
    have := hamming_snoc eq xs ys x y (by simpa using h)
    simp only [List.cons_append, hamming, this]
    omega

/-- the position-by-position script, reversed, is still cheaper than an indel, so its cost is the Hamming distance
    of the reversed strings -/
theorem hamming_reverse (eq : Sym → Sym → Bool) (xs ys : List Sym) (h : xs.length = ys.length) :
    hamming eq xs.reverse ys.reverse = hamming eq xs ys := by
  obtain ⟨s, hl, hr, hc⟩ := sub_script eq (hamming eq xs ys + 1) xs ys h
  have := (no_indel_script eq _ s.reverse (by rw [cost_reverse, hc]; omega)).2
  rwa [lhs_reverse, rhs_reverse, hl, hr, cost_reverse, hc] at this

/-- a copy of the adapter at `p`, seen in the reversed read -/
theorem hamming_seg_reverse (eq : Sym → Sym → Bool) (seq read : List Sym) {p q : Nat}
    (h : p + seq.length + q = read.length) :
    hamming eq seq.reverse (seg read.reverse q (q + seq.length)) = hamming eq seq (seg read p (p + seq.length)) := by
  have hp : read.length - (q + seq.length) = p := by omega
  have hq : read.length - q = p + seq.length := by omega
  rw [seg_reverse_of_le _ _ _ (Nat.le_add_right ..) (by omega), hp, hq,
    hamming_reverse _ _ _ (by rw [seg_length' _ _ _ (by omega)]; omega)]

end Cutadapt.MatchSound
