import Cutadapt.Proofs.RunnerStats
/-! Reachable states satisfy the invariants; what holds when the main process has finished; absence of deadlock;
    the termination measure; executions (`run`) and the persistence of faults along them. -/
namespace Cutadapt.Runner
variable {Chunk Stats Fault : Type} {cfg : Config Chunk Stats Fault} {s s' : State Stats}

/-- what is known once `run` has returned normally -/
structure OkFacts (cfg : Config Chunk Stats Fault) (s : State Stats) : Prop where
  noReaderFault : cfg.readerFault = false
  rfailed : s.rfailed = false
  finished : ∀ w, w < cfg.nWorkers → (s.workers w).phase = .finished
  closed : ∀ w, w < cfg.nWorkers → s.isOpen w = false
  drained : ∀ w, w < cfg.nWorkers → (s.workers w).outbox = []
  all : ∀ i, s.received.count i = if i < cfg.chunks.length then 1 else 0

structure EndInv (cfg : Config Chunk Stats Fault) (s : State Stats) : Prop where
  ok : s.outcome = .ok → OkFacts cfg s
  failed : s.outcome = .failed → ∃ w, w < cfg.nWorkers ∧ (s.workers w).phase = .failed

theorem allDone_iff : allDone cfg s = true ↔
    (∀ w, w < cfg.nWorkers → s.isOpen w = false ∧ (s.workers w).phase = .finished) ∧ s.pills = cfg.nWorkers := by
  simp [allDone, List.all_eq_true]

theorem RunInv.pillWk_le (h : RunInv cfg s) {w : Nat} (hw : w < cfg.nWorkers) : pillWk (s.workers w) ≤ 1 := by
  have hq := h.queue w hw
  have hp := count_le_nonErr (m := .pill) nofun (s.workers w).inbox
  unfold pillWk
  split
  · rename_i hph
    rw [hph] at hq
    exact Nat.succ_le_succ (Nat.le_trans hp (Nat.le_trans (Nat.le_add_left _ _) (Nat.le_of_eq hq)))
  · exact Nat.le_trans hp (Nat.le_trans (Nat.le_add_left _ _) hq.le_one)

theorem okFacts_of_allDone (hn : 0 < cfg.nWorkers) (h : RunInv cfg s) (hd : allDone cfg s = true) : OkFacts cfg s := by
  obtain ⟨hall, hp⟩ := allDone_iff.mp hd
  have hpp := h.pills_pos (hp ▸ hn)
  have hdr : ∀ w, w < cfg.nWorkers → (s.workers w).outbox = [] := fun w hw => by
    have ho := h.outbox w hw
    simp only [OutboxOk, (hall w hw).2] at ho
    exact ho.2 (hall w hw).1
  refine ⟨hpp.2, ?_, fun w hw => (hall w hw).2, fun w hw => (hall w hw).1, hdr, ?_⟩
  · cases hr : s.rfailed with
    | false => rfl
    | true => have := (h.rfailed hr).1; rw [hpp.2] at this; cases this
  · intro i
    have hz : sumW cfg.nWorkers (fun w => cntWk i (s.workers w)) = cfg.nWorkers * 0 :=
      sumW_eq_const 0 (fun w hw => by
        have hq := h.queue w hw
        have hl := h.lost w hw (by rw [(hall w hw).2]; nofun)
        have hc := count_le_nonErr (m := .chunk i) nofun (s.workers w).inbox
        simp only [(hall w hw).2, QOk] at hq
        simp only [cntWk, (hall w hw).2, cntProc, hdr w hw, cntRes, hl]
        simp; omega)
    have := h.once i
    rwa [hz, hpp.1, Nat.mul_zero, Nat.zero_add] at this

theorem endInv_of_running (h : s.outcome = .running) : EndInv cfg s :=
  ⟨fun h' => (nomatch h.symm.trans h'), fun h' => (nomatch h.symm.trans h')⟩

theorem reachable_inv (hn : 0 < cfg.nWorkers) (hr : Reachable cfg s) :
    SafeInv cfg s ∧ (s.outcome = .running → RunInv cfg s) ∧ EndInv cfg s ∧
    ∀ i, sumW cfg.nWorkers (fun w => cntWk i (s.workers w)) + s.received.count i = if i < s.next then 1 else 0 := by
  induction hr with
  | init => exact ⟨safeInv_init cfg, fun _ => runInv_init cfg, endInv_of_running rfl, (runInv_init cfg).once⟩
  | @step s s' a _ hs ih =>
    obtain ⟨hrun, h⟩ := Step.of_eq hs
    have hinv := ih.2.1 hrun
    refine ⟨safeInv_step hinv ih.1 h, runInv_step hinv h, ?_⟩
    rcases h.outcome with he | ⟨hd, rfl⟩ | ⟨w, rest, hw, hop, hout, rfl⟩
    · exact ⟨endInv_of_running (he.trans hrun), (runInv_step hinv h (he.trans hrun)).once⟩
    · -- no field of `OkFacts` reads `outcome`
      have hf := okFacts_of_allDone hn hinv hd
      exact ⟨⟨fun _ => ⟨hf.noReaderFault, hf.rfailed, hf.finished, hf.closed, hf.drained, hf.all⟩, fun h => (nomatch h)⟩, hinv.once⟩
    · refine ⟨⟨fun h => (nomatch h), fun _ => ⟨w, hw, ?_⟩⟩, fun i => ?_⟩
      · show ((s.setW w _).workers w).phase = .failed
        rw [setW_workers_same]
        exact ((outboxOk_head (hinv.outbox w hw) hop hout (fun _ _ => nofun)).2.resolve_left (fun e => nomatch e.2)).1
      · let W' : Worker Stats := { s.workers w with outbox := rest }
        have hsum := sumW_setW (cntWk i) s hw W'
        have hloc : cntWk i W' = cntWk i (s.workers w) := by simp only [W', cntWk, hout, cntRes]
        have := hinv.once i
        show sumW _ (fun v => cntWk i ((s.setW w W').workers v)) + s.received.count i = if i < s.next then 1 else 0
        omega

theorem reachable_safe (hn : 0 < cfg.nWorkers) (hr : Reachable cfg s) : SafeInv cfg s :=
  (reachable_inv hn hr).1

theorem reachable_runInv (hn : 0 < cfg.nWorkers) (hr : Reachable cfg s) (hrun : s.outcome = .running) : RunInv cfg s :=
  (reachable_inv hn hr).2.1 hrun

theorem reachable_end (hn : 0 < cfg.nWorkers) (hr : Reachable cfg s) : EndInv cfg s :=
  (reachable_inv hn hr).2.2.1

/-- `RunInv.once` survives the end of the run -/
theorem reachable_once (hn : 0 < cfg.nWorkers) (hr : Reachable cfg s) (i : Nat) :
    sumW cfg.nWorkers (fun w => cntWk i (s.workers w)) + s.received.count i = if i < s.next then 1 else 0 :=
  (reachable_inv hn hr).2.2.2 i

theorem reachable_stats (hm : IsCommMonoid cfg.add cfg.zero) (hn : 0 < cfg.nWorkers) (hr : Reachable cfg s) : StatsInv cfg s := by
  induction hr with
  | init => exact statsInv_init hm
  | @step s s' a hr' hs ih =>
    obtain ⟨hrun, h⟩ := Step.of_eq hs
    exact statsInv_step hm (reachable_runInv hn hr' hrun) ih h

theorem OkFacts.mem_received (hf : OkFacts cfg s) (i : Nat) : i ∈ s.received ↔ i < cfg.chunks.length := by
  rw [← List.count_pos_iff, hf.all i]
  split
  · rename_i hi; exact ⟨fun _ => hi, fun _ => Nat.one_pos⟩
  · rename_i hi; exact ⟨fun h => absurd h (Nat.lt_irrefl 0), fun h => absurd h hi⟩

theorem reachable_ok (hn : 0 < cfg.nWorkers) (hr : Reachable cfg s) (hok : s.outcome = .ok) :
    OkFacts cfg s ∧ (∀ i, i < cfg.chunks.length → (outOf cfg i).isSome = true) ∧
    ∀ f, (s.writers f).pending = [] ∧ (s.writers f).written = concatRange (fun i => outData cfg i f) cfg.chunks.length := by
  have hsafe := reachable_safe hn hr
  have hf := (reachable_end hn hr).ok hok
  exact ⟨hf, fun i hi => hsafe.recvOk i ((hf.mem_received i).mpr hi), fun f => ((hsafe.writers f).complete hf.mem_received).2⟩

theorem reachable_ok_stats (hm : IsCommMonoid cfg.add cfg.zero) (hn : 0 < cfg.nWorkers) (hr : Reachable cfg s) (hok : s.outcome = .ok) :
    s.mstats = sumRange cfg.add cfg.zero (outStats cfg) cfg.chunks.length := by
  have hf := (reachable_ok hn hr hok).1
  have hst := reachable_stats hm hn hr
  unfold StatsInv at hst
  have h1 : sumRange cfg.add cfg.zero (pend cfg s) cfg.nWorkers = cfg.zero :=
    sumRange_zero hm (fun v hv => by simp only [pend, hf.closed v hv, Bool.false_eq_true, if_false])
  have h2 : sumRange cfg.add cfg.zero (outRes cfg s) cfg.nWorkers = cfg.zero :=
    sumRange_zero hm (fun v hv => by simp only [outRes, hf.drained v hv, resStats])
  rw [h1, h2, hm.add_zero, hm.add_zero] at hst
  rw [hst, wsum_perm hm _ (perm_range_of_count hf.all), wsum_range hm]

theorem enabled_of_running (h : RunInv cfg s) (hrun : s.outcome = .running) : ∃ a s', step cfg s a = some s' := by
  apply Classical.byContradiction
  intro hnone
  have hno : ∀ {a s'}, Step cfg s a s' → False := fun hs => hnone ⟨_, _, hs.eq_some hrun⟩
  -- the main process has taken every message
  have hmain : ∀ w, w < cfg.nWorkers → s.isOpen w = true → (s.workers w).outbox = [] := by
    intro w hw hop
    cases ho : (s.workers w).outbox with
    | nil => rfl
    | cons m rest =>
      cases m with
      | result i d => exact (hno (.mainResult hw hop ho)).elim
      | done st => exact (hno (.mainDone hw hop ho)).elim
      | workerError => exact (hno (.mainError hw hop ho)).elim
  -- so every worker is blocked in `recv` with an empty inbox, or has finished and its connection is removed
  have hphase : ∀ w, w < cfg.nWorkers →
      ((s.workers w).phase = .requested ∧ (s.workers w).inbox = []) ∨ ((s.workers w).phase = .finished ∧ s.isOpen w = false) := by
    intro w hw
    have ho := h.outbox w hw
    cases hph : (s.workers w).phase with
    | idle => exact (hno (.needWork hw hph)).elim
    | processing i =>
      have hlt : i < cfg.chunks.length :=
        Nat.lt_of_lt_of_le (h.of_cnt_pos hw (i := i) (by simp only [cntWk, hph, cntProc, if_true]; omega)).1 h.next_le
      have hc : cfg.chunks[i]? = some cfg.chunks[i] := List.getElem?_eq_getElem hlt
      cases hp : cfg.process cfg.chunks[i] with
      | ok r => exact (hno (.processed hw hph hc hp)).elim
      | error e => exact (hno (.workerRaises hw hph hc hp)).elim
    | requested =>
      cases hi : (s.workers w).inbox with
      | nil => exact Or.inl ⟨rfl, rfl⟩
      | cons m rest =>
        cases m with
        | chunk i => exact (hno (.recvChunk hw hph hi)).elim
        | pill => exact (hno (.recvPill hw hph hi)).elim
        | readerError => exact (hno (.recvReaderError hw hph hi)).elim
    | finished =>
      simp only [OutboxOk, hph] at ho
      cases hop : s.isOpen w with
      | false => exact Or.inr ⟨rfl, rfl⟩
      | true =>
        obtain ⟨pre, hpre, _⟩ := ho.1 hop
        rw [hmain w hw hop] at hpre
        exact absurd hpre.symm (List.append_ne_nil_of_right_ne_nil _ (List.cons_ne_nil _ _))
    | failed =>
      simp only [OutboxOk, hph] at ho
      obtain ⟨hop, pre, hpre, _⟩ := ho
      rw [hmain w hw hop] at hpre
      exact absurd hpre.symm (List.append_ne_nil_of_right_ne_nil _ (List.cons_ne_nil _ _))
  by_cases h5 : ∃ w, w < cfg.nWorkers ∧ (s.workers w).phase = .requested
  · -- a worker waits: it is on the queue, and the reader can serve it unless all pills are out
    obtain ⟨w, hw, hph⟩ := h5
    have hin : (s.workers w).inbox = [] := by
      rcases hphase w hw with ⟨_, hi⟩ | ⟨hf, _⟩
      · exact hi
      · rw [hph] at hf; cases hf
    have hq := h.queue w hw
    rw [hph, hin] at hq
    have hq : s.queue.count w + 0 = 1 := hq
    have hmem : w ∈ s.queue := List.count_pos_iff.mp (Nat.lt_of_lt_of_eq Nat.zero_lt_one hq.symm)
    cases hqu : s.queue with
    | nil => rw [hqu] at hmem; cases hmem
    | cons v q =>
      cases hrf : s.rfailed with
      | true =>
        rcases h.rerr hrf w hw with hf | hm
        · rw [hph] at hf; cases hf
        · rw [hin] at hm; cases hm
      | false =>
        by_cases hlt : s.next < cfg.chunks.length
        · exact hno (.sendChunk hrf hlt hqu)
        · have hnext : s.next = cfg.chunks.length := Nat.le_antisymm h.next_le (Nat.le_of_not_lt hlt)
          cases hfl : cfg.readerFault with
          | true => exact hno (.readerRaises hrf hfl hnext)
          | false =>
            by_cases hpl : s.pills < cfg.nWorkers
            · exact hno (.sendPill hrf hfl hnext hpl hqu)
            · -- all pills are out, no worker has more than one: but `w` has none
              have hlt := sumW_lt (f := fun v => pillWk (s.workers v)) (g := fun _ => 1) (fun v hv => h.pillWk_le hv) hw
                (by simp only [pillWk, hin, hph, List.count_nil, reduceCtorEq, if_false]; decide)
              rw [sumW_eq_const 1 (fun _ _ => rfl), ← h.pillsum] at hlt
              omega
  · -- every worker has finished and every connection is removed
    have hall : ∀ w, w < cfg.nWorkers → s.isOpen w = false ∧ (s.workers w).phase = .finished := by
      intro w hw
      rcases hphase w hw with ⟨hr, _⟩ | ⟨hf, hc⟩
      · exact absurd ⟨w, hw, hr⟩ h5
      · exact ⟨hc, hf⟩
    have hp : s.pills = cfg.nWorkers := by
      rw [h.pillsum, sumW_eq_const 1 fun v hv => ?_, Nat.mul_one]
      have := h.pillWk_le hv
      simp only [pillWk, (hall v hv).2, if_true] at this ⊢
      omega
    exact hno (.mainReturns (allDone_iff.mpr ⟨hall, hp⟩))

def phaseWeight : Phase → Nat
  | .idle => 2
  | .requested => 1
  | .processing _ => 4
  | .finished => 0
  | .failed => 0

def inboxWeight : List InMsg → Nat
  | [] => 0
  | .chunk _ :: r => inboxWeight r + 4
  | .pill :: r => inboxWeight r + 1
  | .readerError :: r => inboxWeight r + 1

def workerWeight (W : Worker Stats) : Nat := phaseWeight W.phase + inboxWeight W.inbox + W.outbox.length

/-- chunks unsent (×5), pills unsent (×2), the reader's pending fault (×(n+1)), per worker: phase, messages in its
    inbox and outbox; plus one while the main process is in its loop -/
def measure (cfg : Config Chunk Stats Fault) (s : State Stats) : Nat :=
  5 * (cfg.chunks.length - s.next) + 2 * (cfg.nWorkers - s.pills)
  + (cfg.nWorkers + 1) * (if cfg.readerFault = true ∧ s.rfailed = false then 1 else 0)
  + sumW cfg.nWorkers (fun w => workerWeight (s.workers w))
  + (if s.outcome = .running then 1 else 0)

theorem inboxWeight_append (a b : List InMsg) : inboxWeight (a ++ b) = inboxWeight a + inboxWeight b := by
  induction a with
  | nil => exact (Nat.zero_add _).symm
  | cons m r ih => cases m <;> simp only [List.cons_append, inboxWeight, ih, Nat.add_right_comm]

theorem measure_lt_of_worker {w : Nat} {W' : Worker Stats} (hw : w < cfg.nWorkers)
    (hwk : s'.workers = (s.setW w W').workers) (hnext : s'.next = s.next) (hpills : s'.pills = s.pills)
    (hrf : s'.rfailed = s.rfailed) (hrun : s.outcome = .running)
    (hW : workerWeight W' < workerWeight (s.workers w)) : measure cfg s' < measure cfg s := by
  have hsum := sumW_setW workerWeight s hw W'
  have hflag : (if s'.outcome = .running then 1 else 0) ≤ 1 := by split <;> decide
  unfold measure
  rw [hwk, hnext, hpills, hrf, hrun, if_pos rfl]
  exact Nat.add_lt_add_of_lt_of_le (Nat.add_lt_add_left (by omega) _) hflag

/-- the reader hands out a message of weight `k` and advances its counters by more than that; the receiver need not be a worker
    (the queue may hold anything in a state that is not reachable) -/
theorem measure_lt_of_give {w k : Nat} {W' : Worker Stats} (hwk : s'.workers = (s.setW w W').workers)
    (hrf : s'.rfailed = s.rfailed) (hout : s'.outcome = s.outcome) (hW : workerWeight W' = workerWeight (s.workers w) + k)
    (hlt : 5 * (cfg.chunks.length - s'.next) + 2 * (cfg.nWorkers - s'.pills) + k
      < 5 * (cfg.chunks.length - s.next) + 2 * (cfg.nWorkers - s.pills)) : measure cfg s' < measure cfg s := by
  have : sumW cfg.nWorkers (fun v => workerWeight ((s.setW w W').workers v)) + workerWeight (s.workers w)
      ≤ sumW cfg.nWorkers (fun v => workerWeight (s.workers v)) + workerWeight W' := by
    by_cases hw : w < cfg.nWorkers
    · exact Nat.le_of_eq (sumW_setW workerWeight s hw W')
    · rw [sumW_congr (f := fun v => workerWeight (s.workers v)) (fun v hv => by rw [setW_workers_ne s W' (fun (e : v = w) => hw (e ▸ hv))])]
      exact Nat.add_le_add_left (hW ▸ Nat.le_add_right _ _) _
  unfold measure
  rw [hwk, hrf, hout]
  omega

theorem mul_pred_add_lt {a k c : Nat} (hk : k < a) (hc : 0 < c) : a * (c - 1) + k < a * c := by
  obtain ⟨c, rfl⟩ := Nat.exists_eq_succ_of_ne_zero (Nat.ne_of_gt hc)
  exact Nat.mul_succ a c ▸ Nat.add_lt_add_left hk _

theorem measure_decreases {a : Action} (hs : step cfg s a = some s') : measure cfg s' < measure cfg s := by
  obtain ⟨hrun, h⟩ := Step.of_eq hs
  cases h with
  | needWork hw hph =>
    refine measure_lt_of_worker hw rfl rfl rfl rfl hrun ?_
    simp only [workerWeight, hph, phaseWeight]
    exact Nat.add_lt_add_right (Nat.add_lt_add_right (Nat.lt_succ_self 1) _) _
  | recvChunk hw hph hin | recvPill hw hph hin | recvReaderError hw hph hin =>
    refine measure_lt_of_worker hw rfl rfl rfl rfl hrun ?_
    simp only [workerWeight, hph, hin, phaseWeight, inboxWeight, List.length_append, List.length_singleton]
    omega
  | processed hw hph | workerRaises hw hph =>
    refine measure_lt_of_worker hw rfl rfl rfl rfl hrun ?_
    simp only [workerWeight, hph, phaseWeight, List.length_append, List.length_singleton]
    omega
  | mainResult hw _ hout | mainDone hw _ hout | mainError hw _ hout =>
    refine measure_lt_of_worker hw rfl rfl rfl rfl hrun ?_
    simp only [workerWeight, hout, List.length_cons]
    exact Nat.lt_succ_self _
  | mainReturns =>
    unfold measure
    rw [hrun]
    exact Nat.lt_succ_self _
  | sendChunk _ hlt =>
    refine measure_lt_of_give (k := 4) rfl rfl rfl ?_ ?_
    · simp only [workerWeight, inboxWeight_append, inboxWeight]
      omega
    · show 5 * (cfg.chunks.length - s.next - 1) + 2 * (_ - s.pills) + 4 < _
      rw [Nat.add_right_comm]
      exact Nat.add_lt_add_right (mul_pred_add_lt (by decide) (Nat.sub_pos_of_lt hlt)) _
  | sendPill _ _ _ hpl =>
    refine measure_lt_of_give (k := 1) rfl rfl rfl ?_ ?_
    · simp only [workerWeight, inboxWeight_append, inboxWeight]
      omega
    · show 5 * (_ - s.next) + 2 * (cfg.nWorkers - s.pills - 1) + 1 < _
      rw [Nat.add_assoc]
      exact Nat.add_lt_add_left (mul_pred_add_lt (by decide) (Nat.sub_pos_of_lt hpl)) _
  | readerRaises hrf hfl =>
    -- every worker gets one message: `n`, paid for by the `n + 1` reserved for the fault
    unfold measure
    dsimp only
    rw [sumW_add_const (f := fun v => workerWeight (s.workers v)) 1 fun v hv => ?_]
    · simp only [hfl, hrf, and_self, if_true, Bool.true_eq_false, and_false, if_false]
      omega
    · simp only [hv, if_true, workerWeight, inboxWeight_append, inboxWeight]
      omega

theorem run_cons {a : Action} {tr : List Action} :
    run cfg s (a :: tr) = some s' ↔ ∃ s₁, step cfg s a = some s₁ ∧ run cfg s₁ tr = some s' := by
  show (match step cfg s a with | none => none | some s₁ => run cfg s₁ tr) = some s' ↔ _
  cases step cfg s a with
  | none => exact ⟨fun h => (nomatch h), fun ⟨_, h, _⟩ => (nomatch h)⟩
  | some s₁ => exact ⟨fun h => ⟨s₁, rfl, h⟩, fun ⟨_, h, h'⟩ => by cases h; exact h'⟩

theorem run_preserves (P : State Stats → Prop) (hP : ∀ {s s' : State Stats} {a : Action}, P s → step cfg s a = some s' → P s') :
    ∀ (tr : List Action) {s s' : State Stats}, run cfg s tr = some s' → P s → P s'
  | [], _, _, h, hs => by cases h; exact hs
  | _ :: tr, _, _, h, hs => by
    obtain ⟨s₁, h1, h2⟩ := run_cons.mp h
    exact run_preserves P hP tr h2 (hP hs h1)

theorem reachable_run (tr : List Action) {s s' : State Stats} (hr : Reachable cfg s) (h : run cfg s tr = some s') : Reachable cfg s' :=
  run_preserves (Reachable cfg) (fun hr hs => hr.step hs) tr h hr

theorem faulted_step {a : Action} (hs : step cfg s a = some s') (h : Faulted cfg s) : Faulted cfg s' := by
  obtain ⟨_, hs⟩ := Step.of_eq hs
  rcases h with h | ⟨w, hw, h⟩
  · exact Or.inl (hs.rfailed_mono h)
  · exact Or.inr ⟨w, hw, hs.failed_mono h⟩

theorem faulted_run (tr : List Action) {s s' : State Stats} (h : run cfg s tr = some s') (hf : Faulted cfg s) : Faulted cfg s' :=
  run_preserves (Faulted cfg) (fun hf hs => faulted_step hs hf) tr h hf

theorem run_length_le : ∀ (tr : List Action) {s s' : State Stats}, run cfg s tr = some s' → tr.length + measure cfg s' ≤ measure cfg s
  | [], _, _, h => by cases h; exact Nat.le_of_eq (Nat.zero_add _)
  | _ :: tr, _, _, h => by
    obtain ⟨s₁, h1, h2⟩ := run_cons.mp h
    have := run_length_le tr h2
    have := measure_decreases h1
    simp only [List.length_cons]
    omega

end Cutadapt.Runner
