import Cutadapt.Proofs.KmerShiftAnd
/-! `KmerFinder.__cinit__` and `kmers_present`: the k-mers of an entry packed into masks, the window an entry selects from the
    read, and the verdict as a statement about occurrences of k-mers. -/
namespace Cutadapt.Kmer
open Cutadapt Cutadapt.Spec

theorem flatten_reverse_length (l : List Bytes) : l.reverse.flatten.length = l.flatten.length := by
  rw [List.length_flatten, List.map_reverse, List.sum_reverse, ← List.length_flatten]

theorem packGo_flatten (ks : List Bytes) (off : Nat) (cur : List Bytes) :
    (packGo ks off cur).flatten = cur.reverse ++ ks := by
  induction ks generalizing off cur with
  | nil => cases cur <;> simp [packGo]
  | cons k ks ih =>
    rw [packGo]
    split
    · rw [ih, List.reverse_cons, List.append_assoc, List.singleton_append]
    · rw [List.flatten_cons, ih, List.reverse_singleton, List.singleton_append]

theorem packGo_length_le (ks : List Bytes) (off : Nat) (cur : List Bytes) (hoff : cur.flatten.length = off) (h64 : off ≤ 64)
    (hk : ∀ k ∈ ks, k.length ≤ 64) : ∀ g ∈ packGo ks off cur, g.flatten.length ≤ 64 := by
  induction ks generalizing off cur with
  | nil =>
    intro g hg
    rw [packGo] at hg
    split at hg
    · cases hg
    · rw [List.mem_singleton.mp hg, flatten_reverse_length, hoff]; exact h64
  | cons k ks ih =>
    have hks : ∀ k' ∈ ks, k'.length ≤ 64 := fun k' h => hk k' (List.mem_cons_of_mem _ h)
    intro g hg
    rw [packGo] at hg
    split at hg
    next hfit =>  -- `k` still fits into the current word
      exact ih _ (k :: cur) (by rw [List.flatten_cons, List.length_append, hoff, Nat.add_comm]) hfit hks g hg
    next =>
      rcases List.mem_cons.mp hg with rfl | hg
      · rw [flatten_reverse_length, hoff]; exact h64
      · exact ih k.length [k] (by simp) (hk k List.mem_cons_self) hks g hg

theorem packWords_any_correct (m : UInt8 → UInt8 → Bool) (kmers : List Bytes) (hne : ∀ k ∈ kmers, k ≠ [])
    (hlen : ∀ k ∈ kmers, k.length ≤ 64) (window : Bytes) :
    (packWords kmers).any (fun ws =>
      shiftAnd (maskFrom m ws.flatten 0) (initMaskFrom ws 0) (foundMaskFrom ws 0) window 0) = true ↔
    ∃ k ∈ kmers, ∃ i, OccursAt m k window i := by
  have hmem (w : Bytes) : w ∈ kmers ↔ ∃ ws ∈ packWords kmers, w ∈ ws := by
    rw [← List.mem_flatten, packWords, packGo_flatten, List.reverse_nil, List.nil_append]
  have hcorrect : ∀ ws ∈ packWords kmers,
      (shiftAnd (maskFrom m ws.flatten 0) (initMaskFrom ws 0) (foundMaskFrom ws 0) window 0 = true ↔
        ∃ w ∈ ws, ∃ i, OccursAt m w window i) := fun ws hws =>
    shiftAnd_correct m ws (fun w hw => hne w ((hmem w).mpr ⟨ws, hws, hw⟩))
      (packGo_length_le kmers 0 [] rfl (Nat.zero_le _) hlen ws hws) window
  rw [List.any_eq_true]
  constructor
  · rintro ⟨ws, hws, hsa⟩
    obtain ⟨w, hw, hocc⟩ := (hcorrect ws hws).mp hsa
    exact ⟨w, (hmem w).mpr ⟨ws, hws, hw⟩, hocc⟩
  · rintro ⟨k, hk, hocc⟩
    obtain ⟨ws, hws, hkws⟩ := (hmem k).mp hk
    exact ⟨ws, hws, (hcorrect ws hws).mpr ⟨k, hkws, hocc⟩⟩

theorem mkFinder_eq {entries : List Entry} {ms : List MaskEntry} (h : mkFinder entries = some ms) :
    (∀ e ∈ entries, ∀ k ∈ e.kmers, k.length ≤ 64) ∧
    ms = entries.flatMap fun e => (packWords e.kmers).map fun ws => ⟨e.start, e.stop.getD 0, ws⟩ := by
  simp only [mkFinder] at h
  split at h
  · cases h
  · rename_i hany
    refine ⟨fun e he k hk => Nat.le_of_not_lt fun hgt => hany ?_, (Option.some.inj h).symm⟩
    exact List.any_eq_true.mpr ⟨e, he, List.any_eq_true.mpr ⟨k, hk, by simp [hgt]⟩⟩

/-- since d940092 every window lies inside the sequence -/
theorem windowOf_bound {start stop : Int} {n st len : Nat} (h : windowOf start stop n = some (st, len)) :
    st + len ≤ n := by
  unfold windowOf at h
  simp only at h
  split at h
  · cases h
  · rename_i st' hst
    split at h
    · cases h
    · rename_i sp hsp
      split at h
      · cases h
      · rename_i hpos
        simp only [Option.some.injEq, Prod.mk.injEq] at h
        obtain ⟨h1, h2⟩ := h
        have hst0 : 0 ≤ st' ∧ st' ≤ n := by
          split at hst
          · simp only [Option.some.injEq] at hst; split at hst <;> omega
          · split at hst
            · cases hst
            · simp only [Option.some.injEq] at hst; omega
        have hsp0 : sp ≤ n := by
          split at hsp
          · split at hsp
            · cases hsp
            · simp only [Option.some.injEq] at hsp; omega
          · split at hsp
            · simp only [Option.some.injEq] at hsp; omega
            · rename_i hne
              simp only [Option.some.injEq] at hsp
              simp only [Bool.or_eq_true, beq_iff_eq, decide_eq_true_eq, not_or] at hne
              omega
        omega

theorem windowOf_whole (n : Nat) (hn : 0 < n) : windowOf 0 0 n = some (0, n) := by
  have h1 : ¬ ((n : Int) < 0) := by omega
  simp [windowOf, h1]
  omega

theorem windowOf_back (s : Int) (hs : s < 0) (n : Nat) (hn : 0 < n) :
    windowOf s 0 n = some (((n : Int) + s).toNat, n - ((n : Int) + s).toNat) := by
  unfold windowOf
  simp only [hs, ↓reduceIte]
  by_cases hneg : (n : Int) + s < 0
  · simp [hneg]; omega
  · simp [hneg]
    constructor
    · omega
    · omega

theorem windowOf_front (t : Int) (ht : 1 ≤ t) (n : Nat) (hn : 0 < n) :
    windowOf 0 t n = some (0, min t.toNat n) := by
  unfold windowOf
  have h1 : ¬ ((0 : Int) > (n : Int)) := by omega
  have h2 : ¬ (t < 0) := by omega
  by_cases hgt : t > (n : Int)
  · simp [h1, h2, hgt]; omega
  · have h3 : ¬ (t = 0) := by omega
    simp [h1, h2, hgt, h3]; omega

theorem haystack_inside (read beyond : Bytes) (st len : Nat) (h : st + len ≤ read.length) :
    haystack (read ++ beyond) st len = (read.drop st).take len := by
  unfold haystack
  have h1 : ((read ++ beyond).drop st).take len = (read.drop st).take len := by
    rw [List.drop_append_of_le_length (by omega), List.take_append_of_le_length (by simp; omega)]
  simp only [h1]
  have : ((read.drop st).take len).length = len := by simp; omega
  rw [this]; simp

theorem maskFrom_none (m : UInt8 → UInt8 → Bool) (cat : Bytes) (pos : Nat) (c : UInt8) (h : ∀ a, m a c = false) :
    maskFrom m cat pos c = 0 := by
  induction cat generalizing pos with
  | nil => rfl
  | cons a cat ih => simp [maskFrom, h a, ih]

theorem entryMask_eq (wr wq : Bool) (e : MaskEntry) :
    entryMask wr wq e = maskFrom (kmerMatches wr wq) e.needle 0 := by
  funext c
  simp only [entryMask]
  split
  · rfl
  · rename_i hc
    rw [maskFrom_none]
    intro a
    have : decide (c < 128) = false := by simpa using hc
    simp [kmerMatches, this]

theorem entryPresent_ignores_beyond (wr wq : Bool) (e : MaskEntry) (read b1 b2 : Bytes) :
    entryPresent wr wq e read b1 = entryPresent wr wq e read b2 := by
  unfold entryPresent
  split
  · rfl
  · rename_i st len hw
    have := windowOf_bound hw
    rw [haystack_inside read b1 st len this, haystack_inside read b2 st len this]

theorem kmersPresent_ignores_beyond (f : Finder) (read b1 b2 : Bytes) :
    kmersPresent f read b1 = kmersPresent f read b2 := by
  cases f with
  | mock => rfl
  | masks wr wq entries =>
    simp only [kmersPresent]
    congr 1
    funext e
    exact entryPresent_ignores_beyond wr wq e read b1 b2

theorem entryMasks_iff (wr wq : Bool) (e : Entry) (hne : ∀ k ∈ e.kmers, k ≠ []) (hlen : ∀ k ∈ e.kmers, k.length ≤ 64)
    (read beyond : Bytes) :
    ((packWords e.kmers).any fun ws => entryPresent wr wq ⟨e.start, e.stop.getD 0, ws⟩ read beyond) = true ↔
    ∃ st len, windowOf e.start (e.stop.getD 0) read.length = some (st, len) ∧
      ∃ k ∈ e.kmers, ∃ i, OccursAt (kmerMatches wr wq) k (haystack (read ++ beyond) st len) i := by
  simp only [entryPresent, entryMask_eq, MaskEntry.needle, MaskEntry.initMask, MaskEntry.foundMask]
  cases windowOf e.start (e.stop.getD 0) read.length with
  | none => simp
  | some w =>
    simp only [packWords_any_correct _ _ hne hlen, Option.some.injEq]
    exact ⟨fun h => ⟨_, _, rfl, h⟩, fun ⟨_, _, hw, h⟩ => hw ▸ h⟩

theorem kmersPresent_masks {entries : List Entry} {ms : List MaskEntry} (h : mkFinder entries = some ms) (wr wq : Bool)
    (read beyond : Bytes) :
    kmersPresent (.masks wr wq ms) read beyond =
      entries.any fun e => (packWords e.kmers).any fun ws => entryPresent wr wq ⟨e.start, e.stop.getD 0, ws⟩ read beyond := by
  rw [(mkFinder_eq h).2]
  simp only [kmersPresent, List.any_flatMap, List.any_map, Function.comp_def]

theorem kmersPresent_iff {entries : List Entry} {ms : List MaskEntry} (h : mkFinder entries = some ms)
    (hne : ∀ e ∈ entries, ∀ k ∈ e.kmers, k ≠ []) (wr wq : Bool) (read beyond : Bytes) :
    kmersPresent (.masks wr wq ms) read beyond = true ↔
    ∃ e ∈ entries, ∃ st len, windowOf e.start (e.stop.getD 0) read.length = some (st, len) ∧
      ∃ k ∈ e.kmers, ∃ i, OccursAt (kmerMatches wr wq) k (haystack (read ++ beyond) st len) i := by
  rw [kmersPresent_masks h, List.any_eq_true]
  exact exists_congr fun e => and_congr_right fun he =>
    entryMasks_iff wr wq e (hne e he) ((mkFinder_eq h).1 e he) read beyond

theorem kmersPresent_of_entry {entries : List Entry} {ms : List MaskEntry} (h : mkFinder entries = some ms) {e : Entry}
    (he : e ∈ entries) (hne : ∀ k ∈ e.kmers, k ≠ []) (wr wq : Bool) (read beyond : Bytes) {st len : Nat}
    (hwin : windowOf e.start (e.stop.getD 0) read.length = some (st, len)) {k : Bytes} (hk : k ∈ e.kmers) {p : Nat}
    (hocc : OccursAt (kmerMatches wr wq) k read p) (h1 : st ≤ p) (h2 : p + k.length ≤ st + len) :
    kmersPresent (.masks wr wq ms) read beyond = true := by
  rw [kmersPresent_masks h, List.any_eq_true]
  refine ⟨e, he, (entryMasks_iff wr wq e hne ((mkFinder_eq h).1 e he) read beyond).mpr ⟨st, len, hwin, k, hk, p - st, ?_⟩⟩
  rw [haystack_inside read beyond st len (windowOf_bound hwin)]
  exact occursAt_take (occursAt_drop hocc h1) (by omega)

theorem kmersPresent_of_whole {entries : List Entry} {ms : List MaskEntry} (h : mkFinder entries = some ms) {e : Entry}
    (he : e ∈ entries) (hne : ∀ k ∈ e.kmers, k ≠ []) (wr wq : Bool) (read beyond : Bytes) (h0 : e.start = 0)
    (hn : e.stop = none) {k : Bytes} (hk : k ∈ e.kmers) {p : Nat} (hocc : OccursAt (kmerMatches wr wq) k read p) :
    kmersPresent (.masks wr wq ms) read beyond = true := by
  have hkl : 0 < k.length := List.length_pos_iff.mpr (hne k hk)
  have hle := hocc.1
  exact kmersPresent_of_entry h he hne wr wq read beyond (by rw [h0, hn]; exact windowOf_whole _ (by omega)) hk hocc
    (Nat.zero_le _) (by omega)

end Cutadapt.Kmer
