import Cutadapt.Proofs.KmerTables
/-! Partial (overlap) occurrences survive the repaired prefilter: from a search set that serves the overlap length,
    through `remove_redundant_kmers`, the packing into masks and the window arithmetic, to `kmers_present = True` (C07). -/
namespace Cutadapt.Kmer
open Cutadapt Cutadapt.Spec Cutadapt.Align Cutadapt.Adapters Cutadapt.Generated

/-- **Every overlap level is safe on its own** (repaired tables). Let a script align the adapter prefix `ad[:L]` (characters
    seen through `f`), `min_overlap ≤ L ≤ |ad|`, with the text suffix `T[rs:]` at cost at most `thr L`, and let the number
    of its indels be at most the slack (`thr L` with indels, 0 without). Then some search set of
    `create_back_overlap_searchsets` has a non-empty k-mer that occurs in `T`, under `eq` through `f`, entirely inside that
    set's window `[|T| + start, |T|)`. -/
theorem overlap_level_safe {thr : Nat → Nat} (hthr : ThrOK thr) (ad : Bytes) (mo : Nat) (hmo : 1 ≤ mo) (ind : Bool)
    (eq : Sym → Sym → Bool) (c : Nat) (hc : 1 ≤ c) (f : Sym → Sym) (T : List Sym) (rs L : Nat)
    (hL1 : mo ≤ L) (hL2 : L ≤ ad.length) (s : List Op) (hl : lhs s = (ad.take L).map f) (hr : rhs s = T.drop rs)
    (hrs : rs ≤ T.length) (hcost : cost eq c s ≤ thr L) (hind : indels s ≤ (if ind then thr L else 0)) :
    ∃ S ∈ createBackOverlapSearchsets ad mo thr ind, S.stop = none ∧ ∃ k ∈ S.kmers, k ≠ [] ∧ (∀ a ∈ k, a ∈ ad) ∧ ∃ p,
      OccursAt eq (k.map f) T p ∧ (T.length : Int) + S.start ≤ p := by
  obtain ⟨S, hS, cs, w, M, hstart, hstop, hsub, hne, hflat, hML, hcnt, hw⟩ := backSets_serves hthr ad ind mo hmo L hL1 hL2
  have hsplit : (cs.flatten ++ (ad.take L).drop M).map f = lhs s := by
    have : ad.take M = (ad.take L).take M := by rw [List.take_take, Nat.min_eq_left hML]
    rw [hl, hflat, this, List.take_append_drop]
  obtain ⟨k, hkm, o', hocc⟩ := pigeonhole_prefix eq c hc s f cs _ hsplit (by omega)
  have hchars : ∀ a ∈ k, a ∈ ad := fun a ha =>
    List.mem_of_mem_take (hflat ▸ List.mem_flatten.mpr ⟨k, hkm, ha⟩)
  rw [hr] at hocc
  refine ⟨S, hS, hstop, k, hsub k hkm, hne k hkm, hchars, rs + o', occursAt_of_drop hrs hocc, ?_⟩
  -- the read side is at most `L` plus the indels long, and the window has room for `L` plus the indels allowed
  have hlen := (length_diff_le_indels s).2
  rw [hl, hr, List.length_map, List.length_take, List.length_drop, Nat.min_eq_left hL2] at hlen
  rw [hstart]
  cases ind
  · simp only [Bool.false_eq_true, if_false] at hw hind; omega
  · simp only [if_true] at hw hind; omega

theorem finder_back (a : Adapter) (hthr : ThrOK a.thr) (hmo : 1 ≤ a.minOverlap) (s : Bytes) (hs1 : 1 ≤ s.length)
    (f i : Bool) (fin beyond : Bytes) (S : SearchSet)
    (hS : S ∈ createBackOverlapSearchsets s a.minOverlap a.thr a.indels) (k : Bytes) (hk : k ∈ S.kmers)
    (p : Nat) (hocc : OccursAt (kmerMatches a.adapterWildcards a.readWildcards) k fin p)
    (hwin : (fin.length : Int) + S.start ≤ p) :
    kmersPresent (makeKmerFinder a s true f i) fin beyond = true :=
  kmersPresent_makeKmerFinder fun entries ms hentries hms => by
    obtain ⟨e, he, hke, hes, hest⟩ := removeRedundant_back hentries (mem_searchSets.mpr (Or.inl ⟨rfl, hS⟩))
      (backSets_stop _ _ _ _ S hS) hk
    have hne := entries_ne hthr hs1 hmo hentries e he
    have hneg := backSets_start_neg s a.minOverlap a.thr a.indels hmo S hS
    have hkl : 0 < k.length := List.length_pos_iff.mpr (hne k hke)
    have hle := hocc.1
    rcases hest with h0 | hle'
    · exact kmersPresent_of_whole hms he hne _ _ fin beyond h0 hes hke hocc
    · exact kmersPresent_of_entry hms he hne _ _ fin beyond
        (by rw [hes]; exact windowOf_back e.start (by omega) fin.length (by omega)) hke hocc (by omega) (by omega)

theorem finder_front (a : Adapter) (hthr : ThrOK a.thr) (hmo : 1 ≤ a.minOverlap) (s : Bytes) (hs1 : 1 ≤ s.length)
    (b i : Bool) (fin beyond : Bytes) (S : SearchSet)
    (hS : S ∈ createBackOverlapSearchsets s.reverse a.minOverlap a.thr a.indels) (k : Bytes) (hk : k ∈ S.kmers)
    (p : Nat) (hocc : OccursAt (kmerMatches a.adapterWildcards a.readWildcards) k.reverse fin p)
    (hwin : ((p + k.length : Nat) : Int) ≤ -S.start) :
    kmersPresent (makeKmerFinder a s b true i) fin beyond = true :=
  kmersPresent_makeKmerFinder fun entries ms hentries hms => by
    obtain ⟨e, he, hke, hes, hest⟩ := removeRedundant_front hentries
      (mem_searchSets.mpr (Or.inr (Or.inl ⟨rfl, S, hS, rfl⟩))) rfl rfl (List.mem_map.mpr ⟨k, hk, rfl⟩)
    have hne := entries_ne hthr hs1 hmo hentries e he
    have hkl : 0 < k.reverse.length := List.length_pos_iff.mpr (hne _ hke)
    have hle := hocc.1
    rw [List.length_reverse] at hkl hle
    rcases hest with hnone | ⟨t', ht', hle'⟩
    · exact kmersPresent_of_whole hms he hne _ _ fin beyond hes hnone hke hocc
    · exact kmersPresent_of_entry hms he hne _ _ fin beyond
        (by rw [hes, ht']; exact windowOf_front t' (by omega) fin.length (by omega)) hke hocc (Nat.zero_le _)
        (by rw [List.length_reverse]; omega)

structure OverlapSide (a : Adapter) : Prop where
  thr_ok : ThrOK a.thr
  overlap_pos : 1 ≤ a.minOverlap
  noindel_len : a.indels = false → a.seq.length ≤ indelCostOff

theorem indels_bound (a : Adapter) (hside : OverlapSide a) (flags : Nat) (sc : List Op) (L : Nat) (hL1 : 1 ≤ L)
    (hL : L ≤ a.seq.length)
    (hcost : cost (alignerCfg a flags).eq (alignerCfg a flags).indelCost sc ≤ a.thr L) :
    indels sc ≤ (if a.indels then a.thr L else 0) := by
  -- an indel costs 1, or more than the whole tolerance
  have h1 : indels sc * (if a.indels then 1 else indelCostOff) ≤ a.thr L :=
    Nat.le_trans (indels_mul_le_cost (alignerCfg a flags).eq _ sc) hcost
  have hlt := hside.thr_ok.lt L hL1
  cases hi : a.indels
  · have hlen : a.seq.length ≤ indelCostOff := hside.noindel_len hi
    rw [hi, if_neg Bool.false_ne_true] at h1
    rw [if_neg Bool.false_ne_true]
    -- `indels sc * indelCostOff ≤ thr L < L ≤ indelCostOff`
    exact Nat.le_of_lt_succ (Nat.lt_of_mul_lt_mul_right (a := indelCostOff) (by omega))
  · rw [hi, if_pos rfl] at h1
    rw [if_pos rfl]
    omega

/-- an adapter prefix aligned with the end of the sequence (3' overlap, or the whole adapter at the very end) -/
theorem present_back (a : Adapter) (hside : OverlapSide a) (s : Bytes)
    (hs_ok : ∀ c ∈ s, c ≠ 0 ∧ tr upperTable c = c) (hs_len : s.length = a.seq.length)
    (fin : Bytes) (hfin : ∀ c ∈ fin, c ≠ 0 ∧ c < 128)
    (beyond : Bytes) (flags : Nat) (f i : Bool) (L rs e : Nat)
    (hres : SoundResult (alignerCfg a flags) s fin 0 L rs fin.length e) :
    kmersPresent (makeKmerFinder a s true f i) fin beyond = true := by
  obtain ⟨sc, hl, hr, hcost⟩ := hres.script_le hside.thr_ok.mono
  have hcost : cost (alignerCfg a flags).eq (alignerCfg a flags).indelCost sc ≤ a.thr L := hcost
  have hov : a.minOverlap ≤ L := hres.overlap
  have hLm : L ≤ s.length := hres.h_ae
  have hmo := hside.overlap_pos
  rw [seg_zero] at hl
  rw [seg_of_length_le _ _ _ (Nat.le_refl _), List.map_drop] at hr
  obtain ⟨S, hS, _, k, hk, _, hchars, p, hocc, hwin⟩ :=
    overlap_level_safe hside.thr_ok s a.minOverlap hmo a.indels _ _ (indelCost_pos a) _ _ rs L hov hLm sc
      hl hr (by simpa using hres.h_rs) hcost
      (indels_bound a hside flags sc L (by omega) (by omega) hcost)
  rw [List.length_map] at hwin
  exact finder_back a hside.thr_ok hmo s (by omega) f i fin beyond S hS k hk p
    (occurs_transfer _ k fin (fun c hc => hs_ok c (hchars c hc)) hfin p hocc) hwin

/-- an adapter suffix aligned with the start of the sequence (5' overlap, or the whole adapter at the very start):
    the 3' case for the reversed adapter, sequence and script -/
theorem present_front (a : Adapter) (hside : OverlapSide a) (s : Bytes)
    (hs_ok : ∀ c ∈ s, c ≠ 0 ∧ tr upperTable c = c) (hs_len : s.length = a.seq.length)
    (fin : Bytes) (hfin : ∀ c ∈ fin, c ≠ 0 ∧ c < 128)
    (beyond : Bytes) (flags : Nat) (b i : Bool) (as re e : Nat)
    (hres : SoundResult (alignerCfg a flags) s fin as s.length 0 re e) :
    kmersPresent (makeKmerFinder a s b true i) fin beyond = true := by
  obtain ⟨sc, hl, hr, hcost⟩ := hres.script_le hside.thr_ok.mono
  have hcost : cost (alignerCfg a flags).eq (alignerCfg a flags).indelCost sc ≤ a.thr (s.length - as) := hcost
  have hov : a.minOverlap ≤ s.length - as := hres.overlap
  have has : as ≤ s.length := hres.h_as
  have hre : re ≤ fin.length := hres.h_re
  have hmo := hside.overlap_pos
  have hl' : lhs sc.reverse = (s.reverse.take (s.length - as)).map (MatchSound.encR (alignerCfg a flags).wildRef (alignerCfg a flags).wildQuery) := by
    rw [lhs_reverse, hl, ← List.map_reverse, seg_reverse, Nat.sub_self, seg_zero]
  have hr' : rhs sc.reverse = (fin.reverse.map (MatchSound.encQ (alignerCfg a flags).wildRef (alignerCfg a flags).wildQuery)).drop (fin.length - re) := by
    rw [rhs_reverse, hr, ← List.map_reverse, seg_reverse, Nat.sub_zero, seg_of_length_le _ _ _ (by simp), List.map_drop]
  obtain ⟨S, hS, _, k, hk, _, hchars, p, hocc, hwin⟩ :=
    overlap_level_safe hside.thr_ok s.reverse a.minOverlap hmo a.indels _ _ (indelCost_pos a) _ _ (fin.length - re)
      (s.length - as) hov (by simp) sc.reverse hl' hr' (by simp) (by rw [cost_reverse]; exact hcost)
      (by rw [indels_reverse]; exact indels_bound a hside flags sc (s.length - as) (by omega) (by omega) hcost)
  have hocc' := occurs_transfer _ k fin.reverse (fun c hc => hs_ok c (List.mem_reverse.mp (hchars c hc)))
    (fun c hc => hfin c (List.mem_reverse.mp hc)) p hocc
  have hrev := occursAt_reverse hocc'
  have hp := hocc'.1
  simp only [List.reverse_reverse, List.length_reverse, List.length_map] at hrev hwin hp
  exact finder_front a hside.thr_ok hmo s (by omega) b i fin beyond S hS k hk _ hrev (by omega)

/-- the three ways in which a reported alignment is covered by a search set -/
theorem present_of_sound (a : Adapter) (hside : OverlapSide a) (hseq : ∀ c ∈ a.seq, c ≠ 0 ∧ tr upperTable c = c)
    (hne : 1 ≤ a.seq.length) (s : Bytes) (hs_ok : ∀ c ∈ s, c ≠ 0 ∧ tr upperTable c = c)
    (hs_len : s.length = a.seq.length) (fin : Bytes)
    (hfin : ∀ c ∈ fin, c ≠ 0 ∧ c < 128) (beyond : Bytes) (flags : Nat) (b f i : Bool) (as ae rs re e : Nat)
    (hres : SoundResult (alignerCfg a flags) s fin as ae rs re e)
    (hcase : (i = true ∧ as = 0 ∧ ae = s.length) ∨ (b = true ∧ as = 0 ∧ re = fin.length) ∨
             (f = true ∧ ae = s.length ∧ rs = 0)) :
    kmersPresent (makeKmerFinder a s b f i) fin beyond = true := by
  rcases hcase with ⟨rfl, rfl, rfl⟩ | ⟨rfl, rfl, rfl⟩ | ⟨rfl, rfl, rfl⟩
  · exact makeKmerFinder_full a ⟨hseq, hside.thr_ok.mono, hside.thr_ok.lt _ hne, hside.overlap_pos⟩ s fin b f flags hs_ok
      hs_len hfin beyond rs re e hres
  · exact present_back a hside s hs_ok hs_len fin hfin beyond flags f i ae rs e hres
  · exact present_front a hside s hs_ok hs_len fin hfin beyond flags b i as re e hres

/-- a read aligned as a whole with an inner part of the adapter is shorter than the adapter plus its allowed errors -/
theorem inside_short (a : Adapter) (hside : OverlapSide a) (flags : Nat) (s Q : Bytes) (hs_len : s.length = a.seq.length)
    (as ae e : Nat) (hres : SoundResult (alignerCfg a flags) s Q as ae 0 Q.length e) (hlt : ae - as < s.length) :
    Q.length < a.seq.length + a.thr a.seq.length := by
  obtain ⟨sc, hl, hr, hcost⟩ := hres.script_le hside.thr_ok.mono
  have hcost : cost (alignerCfg a flags).eq (alignerCfg a flags).indelCost sc ≤ a.thr (ae - as) := hcost
  have hlen := rhs_length_le (alignerCfg a flags).eq (alignerCfg a flags).indelCost (indelCost_pos a) sc
  rw [hl, hr, List.length_map, List.length_map, seg_length, seg_length] at hlen
  have hae := hres.h_ae
  have hmono := hside.thr_ok.mono (ae - as) s.length (by omega)
  rw [← hs_len]
  omega

theorem covered_anywhere {b f i : Bool} (hb : b = true) (hf : f = true) (hi : i = true) {m n as ae rs re : Nat}
    (hs : as = 0 ∨ rs = 0) (he : ae = m ∨ re = n) :
    ((i = true ∧ as = 0 ∧ ae = m) ∨ (b = true ∧ as = 0 ∧ re = n) ∨ (f = true ∧ ae = m ∧ rs = 0)) ∨
    ((b && f && i) = true ∧ rs = 0 ∧ re = n) := by
  rcases hs with h | h <;> rcases he with h' | h'
  · exact Or.inl (Or.inl ⟨hi, h, h'⟩)
  · exact Or.inl (Or.inr (Or.inl ⟨hb, h, h'⟩))
  · exact Or.inl (Or.inr (Or.inr ⟨hf, h', h⟩))
  · exact Or.inr ⟨by rw [hb, hf, hi]; rfl, h, h'⟩

/-- Every class asks the finder for the search sets that cover the placements its aligner flags allow: the whole adapter
    (internal set), an adapter prefix at the end of the read (3' sets), an adapter suffix at its start (5' sets) — or, with all
    three, the whole read against an inner part of the adapter, which no set covers. -/
theorem placement_covered (a : Adapter) {s : Bytes} {b f i : Bool} (hargs : finderArgs a = some (s, b, f, i)) {Q : Bytes}
    {as ae rs re e : Nat} (hres : SoundResult (alignerCfg a (flagsOf a)) s Q as ae rs re e) :
    ((i = true ∧ as = 0 ∧ ae = s.length) ∨ (b = true ∧ as = 0 ∧ re = Q.length) ∨ (f = true ∧ ae = s.length ∧ rs = 0)) ∨
    ((b && f && i) = true ∧ rs = 0 ∧ re = Q.length) := by
  -- the placement constraints of the result, as conditions on the flag bits
  have h1 : (flagsOf a &&& 1 != 0) = false → as = 0 := hres.startRef
  have h2 : (flagsOf a &&& 2 != 0) = false → rs = 0 := hres.startQuery
  have h3 : (flagsOf a &&& 4 != 0) = false → ae = s.length := hres.stopRef
  have h4 : (flagsOf a &&& 8 != 0) = false → re = Q.length := hres.stopQuery
  have hs := hres.startOne
  have he := hres.stopOne
  cases hty : a.ty <;> simp only [finderArgs, flagsOf, hty] at hargs h1 h2 h3 h4
  case front =>  -- the adapter's end is aligned
    cases hargs
    cases hfa : a.forceAnywhere
    · have hae := h3 (by rw [hfa]; decide)
      exact Or.inl (hs.elim (fun h => Or.inl ⟨rfl, h, hae⟩) fun h => Or.inr (Or.inr ⟨rfl, hae, h⟩))
    · exact covered_anywhere rfl rfl rfl hs he
  case back | rightmostFront =>  -- (the latter on the reversed sequences) the adapter's start is aligned
    cases hargs
    cases hfa : a.forceAnywhere
    · have has := h1 (by rw [hfa]; decide)
      exact Or.inl (he.elim (fun h => Or.inl ⟨rfl, has, h⟩) fun h => Or.inr (Or.inl ⟨rfl, has, h⟩))
    · exact covered_anywhere rfl rfl rfl hs he
  case anywhere =>
    cases hargs
    exact covered_anywhere rfl rfl rfl hs he
  case nonInternalFront =>  -- adapter end at the start of the read
    cases hargs
    exact Or.inl (Or.inr (Or.inr ⟨rfl, h3 (by decide), h2 (by decide)⟩))
  case nonInternalBack =>  -- adapter start at the end of the read
    cases hargs
    exact Or.inl (Or.inr (Or.inl ⟨rfl, h1 (by decide), h4 (by decide)⟩))
  case «prefix» =>  -- as `nonInternalFront`, when there is a finder at all
    split at hargs
    · cases hargs
    · cases hargs
      exact Or.inl (Or.inr (Or.inr ⟨rfl, h3 (by decide), h2 (by decide)⟩))
  case suffix =>  -- as `nonInternalBack`
    split at hargs
    · cases hargs
    · cases hargs
      exact Or.inl (Or.inr (Or.inl ⟨rfl, h1 (by decide), h4 (by decide)⟩))

/-- **On `safeDomain` the repaired prefilter never rejects a read for which the aligner reports a match.** -/
theorem present_of_match (a : Adapter) (hside : OverlapSide a) (hseq : ∀ c ∈ a.seq, c ≠ 0 ∧ tr upperTable c = c)
    (hne : 1 ≤ a.seq.length) (hsound : LocateSound (alignerCfg a (flagsOf a)) a.seq.length) (read beyond : Bytes)
    (hdom : safeDomain a read = true) (mt : SingleMatch) (hm : matchTo a read = some mt) :
    kmersPresent (finderFor a) (finderInput a read) beyond = true := by
  simp only [safeDomain, shortReadPasses, Bool.and_eq_true, Bool.not_eq_true', Bool.and_eq_false_imp, List.all_eq_true, bne_iff_ne,
    decide_eq_true_eq, decide_eq_false_iff_not] at hdom
  obtain ⟨hread', hboth⟩ := hdom
  have hread : ∀ c ∈ read, c ≠ 0 ∧ c < 128 := fun c hc => by simpa using hread' c hc
  cases hargs : finderArgs a with
  | none => simp [finderFor, hargs, kmersPresent]
  | some args =>
    obtain ⟨s, b, f, i⟩ := args
    obtain ⟨hlen, hmem⟩ := finderArgs_seq hargs
    obtain ⟨as', ae', rs', re', hres, _⟩ := sound_of_alignment a hsound read hargs (alignment_of_matchTo hm)
    have hs_ok : ∀ c ∈ s, c ≠ 0 ∧ tr upperTable c = c := fun c hc => hseq c (hmem c hc)
    have hfin : ∀ c ∈ finderInput a read, c ≠ 0 ∧ c < 128 := fun c hc => hread c (mem_finderInput.mp hc)
    have covered := present_of_sound a hside hseq hne s hs_ok hlen _ hfin beyond _ b f i as' ae' rs' re' _ hres
    simp only [finderFor, hargs]
    rcases placement_covered a hargs hres with h | ⟨hbfi, rfl, rfl⟩
    · exact covered h
    · -- the whole read against a part of the adapter: the whole adapter, or the read is short and bypasses the finder
      simp only [Bool.and_eq_true] at hbfi
      by_cases hfull : as' = 0 ∧ ae' = s.length
      · exact covered (Or.inl ⟨hbfi.2, hfull⟩)
      · have hshort := inside_short a hside _ s _ hlen as' ae' _ hres (by have := hres.h_ae; omega)
        have hb : bothDirections a = true := by simp [bothDirections, hargs, hbfi.1]
        rw [length_finderInput] at hshort
        exact absurd hshort (hboth hb)

/-- `match_to` with the repaired prefilter equals the aligner alone on `safeDomain` -/
theorem matchToFiltered_eq_of_safeDomain (a : Adapter) (hside : OverlapSide a)
    (hseq : ∀ c ∈ a.seq, c ≠ 0 ∧ tr upperTable c = c) (hne : 1 ≤ a.seq.length)
    (hsound : LocateSound (alignerCfg a (flagsOf a)) a.seq.length) (read beyond : Bytes)
    (hdom : safeDomain a read = true) : matchToFiltered a read beyond = matchTo a read := by
  unfold matchToFiltered
  cases hm : matchTo a read with
  | none => split <;> rfl
  | some mt => rw [present_of_match a hside hseq hne hsound read beyond hdom mt hm, Bool.or_true]; rfl

/-- **`match_to` with the prefilter equals the aligner alone on every ASCII read without NUL bytes**: short reads of adapters
    that search both overlap directions bypass the finder (`ShortReadsPassKmerFinder`), all others are in `safeDomain`. -/
theorem matchToFiltered_eq_of_ascii (a : Adapter) (hside : OverlapSide a)
    (hseq : ∀ c ∈ a.seq, c ≠ 0 ∧ tr upperTable c = c) (hne : 1 ≤ a.seq.length)
    (hsound : LocateSound (alignerCfg a (flagsOf a)) a.seq.length) (read beyond : Bytes)
    (hascii : asciiNoNul read = true) : matchToFiltered a read beyond = matchTo a read := by
  cases hs : shortReadPasses a read with
  | true => unfold matchToFiltered; rw [hs, Bool.true_or]; rfl
  | false =>
    refine matchToFiltered_eq_of_safeDomain a hside hseq hne hsound read beyond ?_
    unfold safeDomain; unfold asciiNoNul at hascii
    rw [hascii, hs]; rfl

end Cutadapt.Kmer
