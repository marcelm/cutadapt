import Cutadapt.Proofs.ModsStages
import Cutadapt.Proofs.StepsCore
/-! The rows of the info file (`InfoFileWriter`) as a recursion over the parts of the matches; every recorded match has a
    part; a read reaches the info writer when only text writers precede it. Core Lean only. -/
namespace Cutadapt
open Cutadapt.Adapters Cutadapt.Qualtrim

/-- the parts of a match together with the adapter-name field of their info rows (`;1` / `;2` for linked adapters) -/
def AnyMatch.labelledParts (names : Names) (m : AnyMatch) : List (MatchRec × Bytes) :=
  match m with
  | .single a r => [(r, bytesOfStr (names.getD a ""))]
  | .linked a f b =>
    f.toList.map (fun p => (p, bytesOfStr (names.getD a "") ++ bytesOfStr ";1")) ++
    b.toList.map (fun p => (p, bytesOfStr (names.getD a "") ++ bytesOfStr ";2"))

theorem AnyMatch.labelledParts_fst (names : Names) (m : AnyMatch) : (m.labelledParts names).map (·.1) = m.parts := by
  cases m with
  | single a r => rfl
  | linked a f b => cases f <;> cases b <;> rfl

theorem flatMap_labelledParts_fst (names : Names) (ms : List AnyMatch) :
    (ms.flatMap (AnyMatch.labelledParts names)).map (·.1) = ms.flatMap AnyMatch.parts := by
  simp only [List.map_flatMap, AnyMatch.labelledParts_fst]

/-- the rows (as lists of fields) for a list of labelled parts, starting from the read `cur` -/
def rowFieldsOf (name rcf : Bytes) : Read → List (MatchRec × Bytes) → List (List Bytes)
  | _, [] => []
  | cur, (p, nm) :: rest => (name :: infoFields p cur nm ++ [rcf]) :: rowFieldsOf name rcf (p.trimmed cur) rest

theorem rowFieldsOf_append (name rcf : Bytes) (cur : Read) (ps qs : List (MatchRec × Bytes)) :
    rowFieldsOf name rcf cur (ps ++ qs) =
      rowFieldsOf name rcf cur ps ++ rowFieldsOf name rcf (trimParts cur (ps.map (·.1))) qs := by
  induction ps generalizing cur with
  | nil => rfl
  | cons p ps ih =>
    obtain ⟨p, nm⟩ := p
    simp [rowFieldsOf, ih]

theorem rowFieldsOf_length (name rcf : Bytes) (cur : Read) (ps : List (MatchRec × Bytes)) :
    (rowFieldsOf name rcf cur ps).length = ps.length := by
  induction ps generalizing cur with
  | nil => rfl
  | cons p ps ih =>
    obtain ⟨p, nm⟩ := p
    simp [rowFieldsOf, ih]

theorem rowFieldsOf_getElem? (name rcf : Bytes) (cur : Read) (ps : List (MatchRec × Bytes)) (k : Nat) :
    (rowFieldsOf name rcf cur ps)[k]? =
      (ps[k]?).map (fun pn => name :: infoFields pn.1 (trimParts cur ((ps.take k).map (·.1))) pn.2 ++ [rcf]) := by
  induction ps generalizing cur k with
  | nil => simp [rowFieldsOf]
  | cons p ps ih =>
    obtain ⟨p, nm⟩ := p
    cases k with
    | zero => simp [rowFieldsOf]
    | succ k => simp [rowFieldsOf, ih]

/-- the read whose pieces the info rows show first: the original read, reverse-complemented if flagged -/
def infoStart (info : Info) : Read := if info.isRc == some true then info.original.revcomp else info.original

/-- the info rows of a read with matches, before joining the fields with tabs -/
def infoRowFields (names : Names) (read : Read) (info : Info) : List (List Bytes) :=
  rowFieldsOf read.name (rcField info.isRc) (infoStart info) (info.mts.flatMap (AnyMatch.labelledParts names))

/-- a fold whose step writes the rows of one match and removes it writes the rows of all parts in turn -/
theorem foldl_rows (names : Names) (name rcf : Bytes) (step : Read × List Bytes → AnyMatch → Read × List Bytes)
    (hstep : ∀ cur rows m, step (cur, rows) m =
      (m.trimmed cur, rows ++ (rowFieldsOf name rcf cur (m.labelledParts names)).map joinTab))
    (ms : List AnyMatch) (cur : Read) (rows : List Bytes) :
    ms.foldl step (cur, rows) =
      (trimAll cur ms, rows ++ (rowFieldsOf name rcf cur (ms.flatMap (AnyMatch.labelledParts names))).map joinTab) := by
  induction ms generalizing cur rows with
  | nil => simp [rowFieldsOf]
  | cons m ms ih =>
    rw [List.foldl_cons, hstep, ih, List.flatMap_cons, rowFieldsOf_append, AnyMatch.labelledParts_fst,
      ← AnyMatch.trimmed_eq_parts, trimAll_cons, List.map_append, List.append_assoc]

/-- **`InfoFileWriter`, read with matches**: one row per part of each match, in the order found -/
theorem infoRows_matched (names : Names) (read : Read) (info : Info) (h : info.mts ≠ []) :
    infoRows names read info = (infoRowFields names read info).map joinTab := by
  unfold infoRows
  rw [if_neg (by cases hm : info.mts <;> simp_all)]
  dsimp only
  rw [foldl_rows names read.name (rcField info.isRc)]
  · exact List.nil_append _
  · intro cur rows m
    cases m with
    | single a r => rfl
    | linked a f b => cases f <;> cases b <;> rfl

theorem infoRows_unmatched (names : Names) (read : Read) (info : Info) (h : info.mts = []) :
    infoRows names read info = [joinTab [read.name, bytesOfStr "-1", read.seq, read.qual.getD []]] := by
  unfold infoRows
  rw [h]
  rfl

/-- every match a single-end modifier appends has at least one part -/
theorem applyS_parts {names : Names} {side : Nat} {m : SMod} {r r' : Read} {i i' : Info} {evs : List Event}
    (hi : ∀ x ∈ i.mts, x.parts ≠ []) (h : applyS names side m r i = .ok (r', i', evs)) : ∀ x ∈ i'.mts, x.parts ≠ [] := by
  have app : ∀ (f : Bool) (ra : Read) (ms : List AnyMatch), (∀ x ∈ ms, x.parts ≠ []) →
      ∀ x ∈ (originalAfter f i ra).mts ++ ms, x.parts ≠ [] := by
    intro f ra ms hms x hx
    rw [originalAfter_mts] at hx
    exact (List.mem_append.mp hx).elim (hi x) (hms x)
  rcases m.stage_cases with hp | ⟨c, f, rfl⟩ | ⟨c, s, f, rfl⟩
  · rw [(applyS_info hp h).1]
    exact hi
  · obtain ⟨ms, ra, hmt, rfl⟩ := applyS_adapters_ok h
    exact app _ _ _ (matchAndTrim_parts hmt).1
  · obtain ⟨ftr, fms, fa, rtr, rms, ra, hf, hr, ⟨_, rfl⟩ | ⟨_, rfl⟩⟩ := applyS_revcomp_ok h
    · exact app _ _ _ (matchAndTrim_parts hr).1
    · exact app _ _ _ (matchAndTrim_parts hf).1

theorem runModsS_parts {names : Names} {mods : List SMod} {r r' : Read} {i i' : Info} {evs evs' : List Event}
    (hi : ∀ x ∈ i.mts, x.parts ≠ []) (h : runModsS names mods r i evs = .ok (r', i', evs')) :
    ∀ x ∈ i'.mts, x.parts ≠ [] :=
  runModsS_invariant (fun _ i => ∀ x ∈ i.mts, x.parts ≠ [])
    (fun _ _ _ _ _ _ _ hi h => applyS_parts hi h) hi h

def Step.isFilter : Step → Bool
  | .filter _ _ _ _ => true
  | _ => false

/-- steps that never consume a read: the three text-file writers -/
def Step.isTextWriter : Step → Bool
  | .restWriter _ | .infoWriter _ | .wildcardWriter _ => true
  | _ => false

theorem stepS_textWriter {ads : List Matchable} {idx : Nat} {s : Step} (hs : s.isTextWriter = true) {read : Read}
    {info : Info} {res : Option Read} {evs : List Event} (h : stepS ads idx s read info = .ok (res, evs)) :
    res = some read := by
  have hp : s.isPass = true := by cases s <;> first | rfl | cases hs
  rcases Steps.stepS_pass hp h with ⟨e, _⟩ | ⟨_, p, p2, mode, w, rfl, _⟩
  · exact e
  · cases hs

/-- if only text writers precede the info writer in the step list, every read that is processed without error gets
    its info rows, whatever the later steps (filters, sinks) do with it -/
theorem runStepsS_info_rows {ads : List Matchable} {pre post : List Step} {f : Nat}
    (hpre : ∀ s ∈ pre, s.isTextWriter = true) {idx : Nat} {r : Read} {i : Info} {evs out : List Event}
    (h : runStepsS ads (pre ++ Step.infoWriter f :: post) idx r i evs = .ok out) :
    ∀ row ∈ infoRows (namesOf ads) r i, Event.text f row ∈ out := by
  induction pre generalizing idx evs with
  | nil =>
    simp only [List.nil_append, runStepsS, stepS] at h
    obtain ⟨tail, _, ht⟩ := Steps.runStepsS_ok_acc h
    intro row hrow
    rw [ht]
    simp only [List.mem_append, List.mem_map]
    exact Or.inl (Or.inr ⟨row, hrow, rfl⟩)
  | cons s ss ih =>
    simp only [List.cons_append, runStepsS] at h
    split at h
    · simp at h
    · rename_i e' hs
      cases stepS_textWriter (hpre s List.mem_cons_self) hs
    · rename_i r' e' hs
      cases stepS_textWriter (hpre s List.mem_cons_self) hs
      exact ih (fun x hx => hpre x (List.mem_cons_of_mem _ hx)) h

end Cutadapt
