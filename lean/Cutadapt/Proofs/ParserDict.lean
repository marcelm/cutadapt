import Cutadapt.Parser
/-! Lookups in parameter dictionaries (`Params`) after each of the operations the parser performs on them, and what
    `postParams` does to lookups (C18). -/
namespace Cutadapt.ParserProofs
open Cutadapt.Parser

theorem Params.get_append (a b : Params) (k : Key) : Params.get (a ++ b) k = (Params.get a k).orElse (fun _ => Params.get b k) := by
  induction a with
  | nil => simp [Params.get]
  | cons x r ih =>
    obtain ⟨k', v⟩ := x
    simp only [List.cons_append, Params.get]
    split
    · simp
    · exact ih

theorem Params.has_append (a b : Params) (k : Key) : Params.has (a ++ b) k = (Params.has a k || Params.has b k) := by
  simp only [Params.has, Params.get_append]
  cases Params.get a k <;> simp

theorem Params.flag_congr {a b : Params} {k : Key} (h : Params.get a k = Params.get b k) : a.flag k = b.flag k := by
  unfold Params.flag
  rw [h]

theorem Params.has_iff_mem_keys (a : Params) (k : Key) : Params.has a k = true ↔ k ∈ a.map (·.1) := by
  induction a with
  | nil => simp [Params.has, Params.get]
  | cons x r ih =>
    obtain ⟨k', v⟩ := x
    simp only [Params.has, Params.get, List.map_cons, List.mem_cons]
    by_cases h : k' = k
    · simp [h]
    · simp only [h, if_false]
      rw [show (Params.get r k).isSome = Params.has r k from rfl, ih]
      constructor
      · exact Or.inr
      · rintro (h' | h')
        · exact absurd h'.symm h
        · exact h'

theorem get_mem {d : Params} {k : Key} {v : Value} (h : Params.get d k = some v) : (k, v) ∈ d := by
  induction d with
  | nil => simp [Params.get] at h
  | cons x r ih =>
    obtain ⟨k', v'⟩ := x
    simp only [Params.get] at h
    by_cases hk : k' = k
    · simp only [hk, if_true, Option.some.injEq] at h; simp [hk, h]
    · simp only [hk, if_false] at h; simp [ih h]

theorem Params.get_filter_key (p : Params) (f : Key → Bool) (k : Key) :
    Params.get (p.filter (fun kv => f kv.1)) k = if f k then Params.get p k else none := by
  induction p with
  | nil => simp [Params.get]
  | cons x r ih =>
    obtain ⟨k', v⟩ := x
    by_cases hk : k' = k
    · subst hk
      cases hf : f k' <;> simp [List.filter, hf, Params.get, ih]
    · cases hf : f k' <;> simp [List.filter, hf, Params.get, hk, ih]

theorem Params.get_erase (p : Params) (k k' : Key) :
    Params.get (p.erase k) k' = if k' = k then none else Params.get p k' := by
  have := Params.get_filter_key p (fun x => decide (x ≠ k)) k'
  simpa [Params.erase] using this

theorem Params.get_update (base over : Params) (k : Key) :
    Params.get (base.update over) k = match Params.get over k with | some v => some v | none => Params.get base k := by
  unfold Params.update
  rw [Params.get_append, Params.get_filter_key base (fun x => !over.has x) k]
  cases h : Params.get over k with
  | some v => simp
  | none => simp [Params.has, h]

theorem Params.get_map_set (p : Params) (k₀ : Key) (v₀ : Value) (k : Key) :
    Params.get (p.map (fun kv => if kv.1 = k₀ then (kv.1, v₀) else kv)) k =
      if k = k₀ then (Params.get p k).map (fun _ => v₀) else Params.get p k := by
  induction p with
  | nil => simp [Params.get]
  | cons x r ih =>
    obtain ⟨k', v⟩ := x
    by_cases h1 : k' = k₀
    · subst h1
      by_cases h2 : k = k'
      · subst h2; simp [Params.get]
      · have h2' : k' ≠ k := fun e => h2 e.symm
        simp [Params.get, h2, h2', ih]
    · by_cases h3 : k' = k
      · subst h3; simp [Params.get, h1]
      · simp [Params.get, h1, h3, ih]

theorem Params.get_singleton (k k' : Key) (v : Value) : Params.get [(k, v)] k' = if k = k' then some v else none := by
  simp [Params.get]

theorem Params.has_singleton (k k' : Key) (v : Value) : Params.has [(k, v)] k' = decide (k = k') := by
  by_cases h : k = k' <;> simp [Params.has, Params.get_singleton, h]

theorem any_bad_false (ok : Key → Bool) (kw : Params) (h : ∀ k, ok k = false → Params.get kw k = none) :
    kw.any (fun kv => !ok kv.1) = false := by
  rw [List.any_eq_false]
  intro kv hmem hbad
  have hhas : Params.has kw kv.1 = true := (Params.has_iff_mem_keys kw kv.1).mpr (List.mem_map.mpr ⟨kv, hmem, rfl⟩)
  rw [Params.has, h kv.1 (by simpa using hbad)] at hhas
  exact Bool.noConfusion hhas

/-- `if a in r: del r[a]; r[b] = False`, the step `postParams` takes for `optional`/`required` and for `noindels`/`indels` -/
def retag (r : Params) (a b : Key) : Params := if r.has a then r.erase a ++ [(b, .bool false)] else r

/-- The new entry for `b` is found only because `a` and `b` are not both present. -/
theorem get_retag (r : Params) {a b : Key} (hab : a ≠ b) (h : ¬ (r.has a = true ∧ r.has b = true)) (k : Key) :
    Params.get (retag r a b) k =
      if k = a then none else if k = b then (if r.has a then some (.bool false) else Params.get r b) else Params.get r k := by
  unfold retag
  cases ha : r.has a with
  | true =>
    have hb : Params.get r b = none := by
      cases hg : Params.get r b with
      | none => rfl
      | some v => exact absurd ⟨ha, by simp [Params.has, hg]⟩ h
    simp only [if_true, Params.get_append, Params.get_erase, Params.get_singleton]
    by_cases h1 : k = a
    · simp [h1, Ne.symm hab]
    · by_cases h2 : k = b
      · simp [h2, hb, Ne.symm hab]
      · cases Params.get r k <;> simp [h1, h2, Ne.symm h2]
  | false =>
    simp only [Bool.false_eq_true, if_false]
    by_cases h1 : k = a
    · subst h1
      cases hg : Params.get r k with
      | none => simp
      | some v => simp [Params.has, hg] at ha
    · by_cases h2 : k = b <;> simp [h1, h2, Ne.symm hab]

/-- lookups after the `optional`/`noindels` rewriting -/
def postGet (d : Params) (k : Key) : Option Value :=
  match k with
  | .indels => if d.has .noindels then some (.bool false) else Params.get d .indels
  | .required => if d.has .optional then some (.bool false) else Params.get d .required
  | .optional => none
  | .noindels => none
  | k => Params.get d k

theorem postParams_ok (d : Params) (h1 : ¬ (d.has .optional = true ∧ d.has .required = true))
    (h2 : ¬ (d.has .indels = true ∧ d.has .noindels = true)) :
    ∃ P, postParams d = .ok P ∧ ∀ k, Params.get P k = postGet d k := by
  have g1 := get_retag d (by decide : Key.optional ≠ .required) h1
  have hh : ∀ k, k ≠ Key.optional → k ≠ .required → (retag d .optional .required).has k = d.has k := by
    intro k ka kb
    simp only [Params.has, g1, ka, kb, if_false]
  have h2' : ¬ ((retag d .optional .required).has .noindels = true ∧ (retag d .optional .required).has .indels = true) := by
    rw [hh _ (by decide) (by decide), hh _ (by decide) (by decide)]; exact fun h => h2 h.symm
  refine ⟨retag (retag d .optional .required) .noindels .indels, ?_, fun k => ?_⟩
  · simp only [postParams, h1, h2, if_false]; rfl
  · rw [get_retag _ (by decide) h2', hh _ (by decide) (by decide)]
    cases k <;> simp [postGet, g1]

theorem postParams_err (d : Params) (h : (d.has .optional = true ∧ d.has .required = true) ∨ (d.has .indels = true ∧ d.has .noindels = true)) :
    ∃ e, postParams d = .error e ∧ e.isCmdline = true := by
  unfold postParams
  by_cases h1 : d.has .optional = true ∧ d.has .required = true
  · exact ⟨.optionalRequired, by simp [h1], rfl⟩
  · rcases h with h | h
    · exact absurd h h1
    · exact ⟨.indelsNoindels, by simp [h1, h], rfl⟩

end Cutadapt.ParserProofs
