import Cutadapt.Proofs.ModsRounds
import Cutadapt.Proofs.AdapterFacts
/-! `match_and_trim` by action: general path, fast path, the intervals kept by retain/crop, the marking done by
    mask/lowercase. Core Lean only. -/
namespace Cutadapt
open Cutadapt.Adapters Cutadapt.Qualtrim

theorem Action.beq_eq_decide (a b : Action) : (a == b) = decide (a = b) := by
  cases a <;> cases b <;> rfl

/-- the read `match_and_trim` searches (and leaves behind in the caller's object): upper-cased under `lowercase` -/
def searchRead (c : Cutter) (read : Read) : Read :=
  if c.action == .lowercase then { read with seq := upperBytes read.seq } else read

theorem searchRead_of_ne (c : Cutter) (read : Read) (h : c.action ≠ .lowercase) : searchRead c read = read := by
  simp [searchRead, h, Action.beq_eq_decide]

theorem searchRead_shape (c : Cutter) (read : Read) :
    (searchRead c read).len = read.len ∧ (searchRead c read).qual = read.qual ∧
    (searchRead c read).name = read.name := by
  unfold searchRead
  split
  · exact ⟨List.length_map _, rfl, rfl⟩
  · exact ⟨rfl, rfl, rfl⟩

/-- what each action makes of the searched read `read`, the matches `ms` (last one `last`) and the trimmed read `tr` -/
def actionResult (c : Cutter) (read tr : Read) (ms : List AnyMatch) (last : AnyMatch) :
    Except Err (Read × List AnyMatch × Read) :=
  match c.action with
  | .trim => .ok (tr, ms, read)
  | .retain => .ok (read.sub last.retainedAdapterInterval.1 last.retainedAdapterInterval.2, ms, read)
  | .mask => .ok (maskedRead read ms, ms, read)
  | .lowercase => .ok (lowercasedRead read ms, ms, read)
  | .crop =>
    match last with
    | .single _ r => .ok (read.sub r.m.rstart r.m.rstop, ms, read)
    | .linked _ _ _ => .error .attribute
  | .none => .ok (read, ms, read)

/-- the general path of `match_and_trim` (the loop over `times` rounds followed by the action) -/
def generalPath (c : Cutter) (read : Read) : Except Err (Read × List AnyMatch × Read) :=
  let p := rounds c.adapters c.times (searchRead c read) []
  match p.2.getLast? with
  | none => .ok (p.1, [], searchRead c read)
  | some last => actionResult c (searchRead c read) p.1 p.2 last

theorem matchAndTrim_unfold (c : Cutter) (read : Read) :
    matchAndTrim c read =
      if c.times == 1 && c.action == .trim then
        match bestMatch c.adapters read.seq with
        | some m => .ok (m.trimmed read, [m], read)
        | none => .ok (read, [], read)
      else generalPath c read := by
  unfold matchAndTrim
  split
  · rfl
  · show _ = generalPath c read
    unfold generalPath actionResult searchRead
    dsimp only
    generalize rounds c.adapters c.times _ [] = p
    cases p.2.getLast? with
    | none => rfl
    | some last => cases c.action <;> rfl

/-- **The fast path (`times = 1`, action `trim`) agrees with the general path.** -/
theorem fastpath_eq_general' (c : Cutter) (read : Read) (ht : c.times = 1) (ha : c.action = .trim) :
    (match bestMatch c.adapters read.seq with
      | some m => (.ok (m.trimmed read, [m], read) : Except Err (Read × List AnyMatch × Read))
      | none => .ok (read, [], read)) = generalPath c read := by
  simp only [generalPath]
  rw [searchRead_of_ne c read (by simp [ha]), ht]
  cases h : bestMatch c.adapters read.seq with
  | none =>
    rw [rounds_succ_none _ _ _ h]
    rfl
  | some m =>
    rw [rounds_succ_some _ _ _ _ h, rounds_zero]
    simp [actionResult, ha]

theorem matchAndTrim_eq_general (c : Cutter) (read : Read) : matchAndTrim c read = generalPath c read := by
  rw [matchAndTrim_unfold]
  split
  · rename_i h
    simp only [Bool.and_eq_true, beq_iff_eq, Action.beq_eq_decide, decide_eq_true_eq] at h
    exact fastpath_eq_general' c read h.1 h.2
  · rfl

/-- no match: the searched read comes back (upper-cased under `lowercase`, otherwise as it was) -/
theorem matchAndTrim_no_match {c : Cutter} {read rd : Read} (hs : searchRead c read = rd)
    (h : (rounds c.adapters c.times rd []).2 = []) : matchAndTrim c read = .ok (rd, [], rd) := by
  subst hs
  rw [matchAndTrim_eq_general]
  simp only [generalPath]
  rw [h, rounds_nil_read h]
  rfl

theorem matchAndTrim_last {c : Cutter} {read rd : Read} {last : AnyMatch} (hs : searchRead c read = rd)
    (h : (rounds c.adapters c.times rd []).2.getLast? = some last) :
    matchAndTrim c read =
      actionResult c rd (rounds c.adapters c.times rd []).1 (rounds c.adapters c.times rd []).2 last := by
  subst hs
  rw [matchAndTrim_eq_general]
  simp only [generalPath]
  rw [h]

theorem matchAndTrim_cases {c : Cutter} {read rd : Read} (hs : searchRead c read = rd) :
    ((rounds c.adapters c.times rd []).2 = [] ∧ matchAndTrim c read = .ok (rd, [], rd)) ∨
    ∃ last, (rounds c.adapters c.times rd []).2.getLast? = some last ∧ matchAndTrim c read =
      actionResult c rd (rounds c.adapters c.times rd []).1 (rounds c.adapters c.times rd []).2 last := by
  cases hl : (rounds c.adapters c.times rd []).2.getLast? with
  | none =>
    have hn := List.getLast?_eq_none_iff.mp hl
    exact .inl ⟨hn, matchAndTrim_no_match hs hn⟩
  | some last => exact .inr ⟨last, rfl, matchAndTrim_last hs hl⟩

theorem actionResult_ok {c : Cutter} {rd tr t a : Read} {ms m : List AnyMatch} {last : AnyMatch}
    (h : actionResult c rd tr ms last = .ok (t, m, a)) : m = ms ∧ a = rd := by
  unfold actionResult at h
  cases hact : c.action <;> simp only [hact] at h
  case crop =>
    cases last with
    | single _ r =>
      cases h
      exact ⟨rfl, rfl⟩
    | linked _ _ _ => cases h
  all_goals (cases h; exact ⟨rfl, rfl⟩)

theorem actionResult_error {c : Cutter} {rd tr : Read} {ms : List AnyMatch} {last : AnyMatch} {e : Err}
    (h : actionResult c rd tr ms last = .error e) : e = .attribute ∧ c.action = .crop := by
  unfold actionResult at h
  cases hact : c.action <;> simp only [hact] at h
  case crop =>
    cases last with
    | single _ r => cases h
    | linked _ _ _ =>
      cases h
      exact ⟨rfl, rfl⟩
  all_goals cases h

theorem matchAndTrim_matches {c : Cutter} {read tr ra : Read} {ms : List AnyMatch}
    (h : matchAndTrim c read = .ok (tr, ms, ra)) :
    ms = (rounds c.adapters c.times (searchRead c read) []).2 ∧ ra = searchRead c read := by
  rcases matchAndTrim_cases (rd := searchRead c read) rfl with ⟨hn, e⟩ | ⟨last, _, e⟩
  · rw [e] at h
    cases h
    exact ⟨hn.symm, rfl⟩
  · rw [e] at h
    exact actionResult_ok h

theorem matchAndTrim_parts {c : Cutter} {read tr ra : Read} {ms : List AnyMatch}
    (h : matchAndTrim c read = .ok (tr, ms, ra)) : (∀ m ∈ ms, m.parts ≠ []) ∧ MatchChain (searchRead c read) ms := by
  obtain ⟨rfl, _⟩ := matchAndTrim_matches h
  obtain ⟨h1, h2, _⟩ := rounds_chain c.adapters c.times (searchRead c read)
  exact ⟨h1, h2⟩

/-- `xs` with `f` applied on `[start, stop)` and `g` elsewhere, position by position -/
theorem three_part (xs : List α) (f g : α → α) (start stop : Nat) (h1 : start ≤ stop) (h2 : stop ≤ xs.length) :
    ((xs.take start).map g ++ (seg xs start stop).map f ++ (xs.drop stop).map g).length = xs.length ∧
    ∀ k, ((xs.take start).map g ++ (seg xs start stop).map f ++ (xs.drop stop).map g)[k]? =
      (xs[k]?).map (fun x => if start ≤ k ∧ k < stop then f x else g x) := by
  have hl1 : ((xs.take start).map g).length = start := by
    rw [List.length_map, List.length_take, Nat.min_eq_left (Nat.le_trans h1 h2)]
  have hl2 : ((seg xs start stop).map f).length = stop - start := by rw [List.length_map, seg_length' _ _ _ h2]
  have hl12 : ((xs.take start).map g ++ (seg xs start stop).map f).length = stop := by
    rw [List.length_append, hl1, hl2, Nat.add_sub_cancel' h1]
  refine ⟨by rw [List.length_append, hl12, List.length_map, List.length_drop, Nat.add_sub_cancel' h2], fun k => ?_⟩
  rcases Nat.lt_or_ge k start with c1 | c1
  · have e : (fun x => if start ≤ k ∧ k < stop then f x else g x) = g :=
      funext fun x => if_neg fun h => Nat.not_le_of_lt c1 h.1
    rw [e, List.append_assoc, List.getElem?_append_left (hl1.symm ▸ c1), List.getElem?_map, List.getElem?_take_of_lt c1]
  · rcases Nat.lt_or_ge k stop with c2 | c2
    · have e : (fun x => if start ≤ k ∧ k < stop then f x else g x) = f := funext fun x => if_pos ⟨c1, c2⟩
      rw [e, List.getElem?_append_left (hl12.symm ▸ c2), List.getElem?_append_right (hl1.symm ▸ c1), hl1,
        List.getElem?_map, seg, List.getElem?_drop, List.getElem?_take_of_lt (by rw [Nat.add_sub_cancel' c1]; exact c2),
        Nat.add_sub_cancel' c1]
    · have e : (fun x => if start ≤ k ∧ k < stop then f x else g x) = g :=
        funext fun x => if_neg fun h => Nat.not_le_of_lt h.2 c2
      rw [e, List.getElem?_append_right (hl12.symm ▸ c2), hl12, List.getElem?_map, List.getElem?_drop,
        Nat.add_sub_cancel' c2]

theorem asciiLower_upper (c : UInt8) : asciiLower (asciiUpper c) = asciiLower c := by
  by_cases h : 97 ≤ c ∧ c ≤ 122
  · have hn : ¬ (65 ≤ c ∧ c ≤ 90) := fun h2 => absurd (UInt8.le_trans h.1 h2.2) (by decide)
    rw [show asciiUpper c = c - 32 from if_pos h, show asciiLower c = c from if_neg hn,
      show asciiLower (c - 32) = c - 32 + 32 from if_pos (upper_of_lower h), UInt8.sub_add_cancel]
  · rw [show asciiUpper c = c from if_neg h]

/-- **mask**: same length, same qualities and name; inside `[start, stop)` the input base, outside `N` -/
theorem maskedRead_spec {read : Read} {ms : List AnyMatch}
    (h1 : (remainder ms).1 ≤ (remainder ms).2) (h2 : (remainder ms).2 ≤ read.len) :
    (maskedRead read ms).seq.length = read.seq.length ∧ (maskedRead read ms).qual = read.qual ∧
    (maskedRead read ms).name = read.name ∧
    ∀ k, (maskedRead read ms).seq[k]? =
      (read.seq[k]?).map (fun x => if (remainder ms).1 ≤ k ∧ k < (remainder ms).2 then x else 78) := by
  unfold Read.len at h2
  have hseq : (maskedRead read ms).seq =
      (read.seq.take (remainder ms).1).map (fun _ => (78 : UInt8)) ++ (seg read.seq (remainder ms).1 (remainder ms).2).map id ++
        (read.seq.drop (remainder ms).2).map (fun _ => (78 : UInt8)) := by
    simp only [maskedRead, Read.len, List.map_id, List.map_const', List.length_take, List.length_drop,
      Nat.min_eq_left (Nat.le_trans h1 h2)]
  obtain ⟨t1, t2⟩ := three_part read.seq id (fun _ => (78 : UInt8)) _ _ h1 h2
  refine ⟨by rw [hseq]; exact t1, rfl, rfl, ?_⟩
  intro k
  rw [hseq, t2 k]
  rfl

/-- **lowercase**: same length, same qualities and name; inside `[start, stop)` the upper-cased base, outside the
    lower-cased base. `read` is the read handed to `lowercasedRead`; `C03.action_lowercase_spec` composes this with the
    upper-casing that `match_and_trim` does first. -/
theorem lowercasedRead_spec {read : Read} {ms : List AnyMatch}
    (h1 : (remainder ms).1 ≤ (remainder ms).2) (h2 : (remainder ms).2 ≤ read.len) :
    (lowercasedRead read ms).seq.length = read.seq.length ∧ (lowercasedRead read ms).qual = read.qual ∧
    (lowercasedRead read ms).name = read.name ∧
    ∀ k, (lowercasedRead read ms).seq[k]? =
      (read.seq[k]?).map (fun x => if (remainder ms).1 ≤ k ∧ k < (remainder ms).2 then asciiUpper x else asciiLower x) := by
  obtain ⟨t1, t2⟩ := three_part read.seq asciiUpper asciiLower _ _ h1 h2
  exact ⟨t1, rfl, rfl, t2⟩

theorem rounds_remainder {ads : List Matchable} (hab : AdaptersInBounds ads) {t : Nat} {read : Read}
    (hne : (rounds ads t read []).2 ≠ []) :
    IsSub read (rounds ads t read []).1 (remainder (rounds ads t read []).2).1 (remainder (rounds ads t read []).2).2 := by
  obtain ⟨c1, c2, c3⟩ := rounds_chain ads t read
  rw [(rounds_spec' ads t read).2.1]
  exact remainder_correct' hne c1 c2 (c3 hab)

theorem actionResult_slice {c : Cutter} {rd tr t a : Read} {ms m : List AnyMatch} {last : AnyMatch}
    (ha : c.action = .trim ∨ c.action = .retain ∨ c.action = .crop ∨ c.action = .none)
    (htr : SameSeg rd tr ∧ tr.name = rd.name) (h : actionResult c rd tr ms last = .ok (t, m, a)) :
    SameSeg rd t ∧ t.name = rd.name ∧ (c.action = .none → t = rd) := by
  unfold actionResult at h
  rcases ha with e | e | e | e <;> simp only [e] at h
  · cases h; exact ⟨htr.1, htr.2, fun h => by simp [e] at h⟩
  · cases h; exact ⟨.sub _ _ _, rfl, fun h => by simp [e] at h⟩
  · cases last with
    | single _ r => cases h; exact ⟨.sub _ _ _, rfl, fun h => by simp [e] at h⟩
    | linked _ _ _ => cases h
  · cases h
    exact ⟨.refl _, rfl, fun _ => rfl⟩

/-- actions that cut: the result is a slice of the input with the same name, the caller's read is untouched -/
theorem matchAndTrim_slice {c : Cutter} {read tr ra : Read} {ms : List AnyMatch}
    (ha : c.action = .trim ∨ c.action = .retain ∨ c.action = .crop ∨ c.action = .none)
    (h : matchAndTrim c read = .ok (tr, ms, ra)) :
    SameSeg read tr ∧ tr.name = read.name ∧ ra = read ∧ (c.action = .none → tr = read) := by
  have hs : searchRead c read = read := searchRead_of_ne c read (by rcases ha with e | e | e | e <;> simp [e])
  rcases matchAndTrim_cases hs with ⟨_, e⟩ | ⟨last, _, e⟩
  · rw [e] at h
    cases h
    exact ⟨.refl _, rfl, rfl, fun _ => rfl⟩
  · rw [e] at h
    have := (rounds_spec' c.adapters c.times read).2.1
    obtain ⟨h1, h2, h3⟩ := actionResult_slice ha ⟨this ▸ trimAll_sameSeg _ _, this ▸ trimAll_name _ _⟩ h
    exact ⟨h1, h2, (actionResult_ok h).2, h3⟩

/-- actions that mark (mask, lowercase): length, qualities and name are kept -/
theorem matchAndTrim_marked {c : Cutter} (hab : AdaptersInBounds c.adapters) {read tr ra : Read} {ms : List AnyMatch}
    (ha : c.action = .mask ∨ c.action = .lowercase)
    (h : matchAndTrim c read = .ok (tr, ms, ra)) :
    tr.seq.length = read.seq.length ∧ tr.qual = read.qual ∧ tr.name = read.name := by
  obtain ⟨hsl, hsq, hsn⟩ := searchRead_shape c read
  rcases matchAndTrim_cases (rd := searchRead c read) rfl with ⟨_, e⟩ | ⟨last, hl, e⟩
  · rw [e] at h
    cases h
    exact ⟨hsl, hsq, hsn⟩
  · have sub := rounds_remainder hab fun hn => by rw [hn] at hl; cases hl
    rw [e] at h
    unfold actionResult at h
    rcases ha with e | e <;> simp only [e] at h <;> cases h
    · obtain ⟨m1, m2, m3, _⟩ := maskedRead_spec sub.le sub.le_len
      exact ⟨m1.trans hsl, m2.trans hsq, m3.trans hsn⟩
    · obtain ⟨m1, m2, m3, _⟩ := lowercasedRead_spec sub.le sub.le_len
      exact ⟨m1.trans hsl, m2.trans hsq, m3.trans hsn⟩

end Cutadapt
