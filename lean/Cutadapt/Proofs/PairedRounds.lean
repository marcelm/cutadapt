import Cutadapt.Proofs.OrderStages
/-! # C09 — the rounds of `--times` belong to both reads of a pair

The paired-end assembly (`makeModsPaired`, the modifier part of `cli.make_pipeline_from_args` / `make_adapter_cutter`) builds one adapter cutter for R1
(`-a`, `-g`, `-b`) and one for R2 (`-A`, `-G`, `-B`). Both carry the same `--times` and `--action`: the rounds of C09 are searched on R2 exactly as on R1. -/
namespace Cutadapt.C09
open Cutadapt

/-- the stage list of an accepted paired-end command line is the documented one -/
theorem makeModsPaired_documented {o : Opts} {ads1 ads2 : List Matchable} {l : List PMod}
    (h : makeModsPaired o ads1 ads2 = .ok l) : l = documentedPaired o ads1 ads2 :=
  eq_documentedPaired_of_ok h

/-- **Both cutters of a paired-end run search `--times` rounds with the given action.** Without `--pair-adapters` and `--revcomp`, with adapters for
    both reads, the stage list holds the adapter stage `wrap (R1 cutter) (R2 cutter)` in which each cutter is (the adapters of its read, `--times`,
    `--action`). -/
theorem paired_rounds_on_both_mates {o : Opts} {ads1 ads2 : List Matchable} {l : List PMod}
    (h : makeModsPaired o ads1 ads2 = .ok l) (hp : o.pairAdapters = false) (hr : o.revcomp = false)
    (h1 : ads1 ≠ []) (h2 : ads2 ≠ []) :
    ∃ f1 f2, PMod.wrap (some (SMod.adapters ⟨ads1, o.times, o.action⟩ f1)) (some (SMod.adapters ⟨ads2, o.times, o.action⟩ f2)) ∈ l := by
  have hmem := adapterStageP_sub_documented o ads1 ads2
  rw [adapterStageP_eq o ads1 ads2 _ _ hp hr (.inl h1), if_neg h1, if_neg h2, ← makeModsPaired_documented h] at hmem
  exact ⟨_, _, hmem _ (List.mem_singleton_self _)⟩

/-- … and with adapters for R2 only, the R2 cutter alone carries them -/
theorem paired_rounds_r2_only {o : Opts} {ads2 : List Matchable} {l : List PMod}
    (h : makeModsPaired o [] ads2 = .ok l) (hp : o.pairAdapters = false) (hr : o.revcomp = false) (h2 : ads2 ≠ []) :
    ∃ f2, PMod.wrap none (some (SMod.adapters ⟨ads2, o.times, o.action⟩ f2)) ∈ l := by
  have hmem := adapterStageP_sub_documented o [] ads2
  rw [adapterStageP_eq o [] ads2 _ _ hp hr (.inr h2), if_pos rfl, if_neg h2, ← makeModsPaired_documented h] at hmem
  exact ⟨_, hmem _ (List.mem_singleton_self _)⟩

def exPairedAd (seq : Bytes) (name : String) : Matchable :=
  .single { ty := .back, seq := seq, thr := (fun L => L / 10), minOverlap := 3, readWildcards := false, adapterWildcards := false,
            indels := true, name := name }

/-- the hypotheses are satisfiable: `-a ACGT -A TTTT --times 3 -U 2` is accepted -/
example : (makeModsPaired { paired := true, times := 3, cut2 := [2] } [exPairedAd [65, 67, 71, 84] "A"] [exPairedAd [84, 84, 84, 84] "B"]).toOption.isSome = true ∧
    ({ paired := true, times := 3, cut2 := [2] } : Opts).pairAdapters = false ∧ ({ paired := true, times := 3, cut2 := [2] } : Opts).revcomp = false := by
  decide +kernel

end Cutadapt.C09
