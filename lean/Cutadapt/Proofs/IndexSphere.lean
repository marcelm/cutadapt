import Cutadapt.Index
import Cutadapt.Proofs.Script
/-! `hamming_sphere`: the model `hammingSphereK` (special cases `k = 0, 1, 2`, recursion for `k ≥ 3`) enumerates, in the
    same order, the uniform recursion `sphereG`; its elements are exactly the `ACGT` strings at Hamming distance `k`,
    each listed once. Core Lean only. -/
namespace Cutadapt.Index
open Cutadapt Cutadapt.Spec

/-- a uniform description of the sphere: vary the first character or keep it -/
def sphereG : Nat → Bytes → List Bytes
  | 0, s => [s]
  | _+1, [] => []
  | k+1, c :: cs => (others c).flatMap (fun p => (sphereG k cs).map (p :: ·)) ++ (sphereG (k+1) cs).map (c :: ·)

theorem sphere1_eq_sphereG (s : Bytes) : sphere1 s = sphereG 1 s := by
  induction s with
  | nil => rfl
  | cons c cs ih =>
    simp only [sphere1, sphereG, ih, List.map_cons, List.map_nil]
    rw [List.map_eq_flatMap]

theorem sphere2_eq_sphereG (s : Bytes) : sphere2 s = sphereG 2 s := by
  induction s with
  | nil => rfl
  | cons c cs ih =>
    simp only [sphere2, sphereG, ih, sphere1_eq_sphereG]

theorem sphereG_of_length_lt : ∀ (s : Bytes) (k : Nat), s.length < k → sphereG k s = []
  | _, 0, h => absurd h (Nat.not_lt_zero _)
  | [], _+1, _ => rfl
  | c :: cs, k+1, h => by
    have h1 : cs.length < k := by simpa using h
    have h2 : cs.length < k + 1 := Nat.lt_succ_of_lt h1
    simp [sphereG, sphereG_of_length_lt cs k h1, sphereG_of_length_lt cs (k+1) h2]

theorem sphereFrom_nil (sub : Bytes → List Bytes) (cnt : Nat) : sphereFrom sub cnt [] = [] := by
  cases cnt <;> rfl

theorem sphereFrom_sphereG (k : Nat) : ∀ s : Bytes,
    sphereFrom (sphereG k) (s.length + 1 - (k+1)) s = sphereG (k+1) s
  | [] => by rw [sphereFrom_nil]; rfl
  | c :: cs => by
    by_cases h : cs.length < k
    · have h0 : (c :: cs).length + 1 - (k+1) = 0 := by simp only [List.length_cons]; omega
      rw [h0, sphereG_of_length_lt (c :: cs) (k+1) (by simp only [List.length_cons]; omega)]
      rfl
    · have h0 : (c :: cs).length + 1 - (k+1) = (cs.length + 1 - (k+1)) + 1 := by
        simp only [List.length_cons]; omega
      rw [h0]
      simp only [sphereFrom, sphereG, sphereFrom_sphereG k cs]

theorem hammingSphereK_eq_sphereG : ∀ (k : Nat) (s : Bytes), hammingSphereK k s = sphereG k s
  | 0, _ => by simp only [hammingSphereK, sphereG]
  | 1, s => by simp only [hammingSphereK, sphere1_eq_sphereG]
  | 2, s => by simp only [hammingSphereK, sphere2_eq_sphereG]
  | k+3, s => by
    have hf : hammingSphereK (k+2) = sphereG (k+2) := funext (hammingSphereK_eq_sphereG (k+2))
    simp only [hammingSphereK, hf]
    exact sphereFrom_sphereG (k+2) s

theorem mem_others (p c : UInt8) : p ∈ others c ↔ p ∈ acgt ∧ p ≠ c := by
  simp [others, List.mem_filter]

theorem others_nodup (c : UInt8) : (others c).Nodup :=
  List.Nodup.sublist List.filter_sublist (by decide : acgt.Nodup)

theorem hamming_nil_right (s : Bytes) : hamming (· == ·) s [] = 0 := by
  cases s <;> rfl

theorem hamming_cons (x y : UInt8) (xs ys : Bytes) :
    hamming (· == ·) (x :: xs) (y :: ys) = (if x = y then 0 else 1) + hamming (· == ·) xs ys := by
  simp [hamming]

theorem hamming_eq_zero : ∀ (s t : Bytes), s.length = t.length → (hamming (· == ·) s t = 0 ↔ s = t)
  | [], [], _ => by simp [hamming]
  | [], _ :: _, h => by simp at h
  | _ :: _, [], h => by simp at h
  | x :: xs, y :: ys, h => by
    have h' : xs.length = ys.length := by simpa using h
    rw [hamming_cons]
    by_cases hxy : x = y
    · simp [hxy, hamming_eq_zero xs ys h']
    · simp [hxy]

theorem mem_sphereG : ∀ (t : Bytes) (k : Nat), (∀ c ∈ t, c ∈ acgt) → ∀ s : Bytes,
    (s ∈ sphereG k t ↔ s.length = t.length ∧ (∀ c ∈ s, c ∈ acgt) ∧ hamming (· == ·) s t = k)
  | t, 0, ht, s => by
    simp only [sphereG, List.mem_singleton]
    constructor
    · rintro rfl
      exact ⟨rfl, ht, (hamming_eq_zero s s rfl).2 rfl⟩
    · rintro ⟨hl, _, hh⟩
      exact (hamming_eq_zero s t hl).1 hh
  | [], k+1, _, s => by
    simp only [sphereG, List.not_mem_nil, false_iff, hamming_nil_right]
    rintro ⟨_, _, h⟩
    exact absurd h (by omega)
  | c :: cs, k+1, ht, s => by
    obtain ⟨hc, hcs⟩ := List.forall_mem_cons.mp ht
    simp only [sphereG, List.mem_append, List.mem_flatMap, List.mem_map]
    constructor
    · rintro (⟨p, hp, s', hs', rfl⟩ | ⟨s', hs', rfl⟩)
      · -- a letter other than `c` in front of a string at distance `k` from `cs`
        obtain ⟨hl, ha, hh⟩ := (mem_sphereG cs k hcs s').1 hs'
        obtain ⟨hpa, hpc⟩ := (mem_others p c).1 hp
        refine ⟨by simp [hl], List.forall_mem_cons.mpr ⟨hpa, ha⟩, ?_⟩
        rw [hamming_cons, if_neg hpc, hh]
        omega
      · -- `c` itself in front of a string at distance `k + 1`
        obtain ⟨hl, ha, hh⟩ := (mem_sphereG cs (k+1) hcs s').1 hs'
        refine ⟨by simp [hl], List.forall_mem_cons.mpr ⟨hc, ha⟩, ?_⟩
        rw [hamming_cons, if_pos rfl, hh]
        omega
    · rintro ⟨hl, ha, hh⟩
      cases s with
      | nil => simp at hl
      | cons x xs =>
        have hl' : xs.length = cs.length := by simpa using hl
        obtain ⟨hxa, hxsa⟩ := List.forall_mem_cons.mp ha
        rw [hamming_cons] at hh
        by_cases hxc : x = c
        · rw [if_pos hxc] at hh
          exact .inr ⟨xs, (mem_sphereG cs (k+1) hcs xs).2 ⟨hl', hxsa, by omega⟩, by rw [hxc]⟩
        · rw [if_neg hxc] at hh
          exact .inl ⟨x, (mem_others x c).2 ⟨hxa, hxc⟩, xs, (mem_sphereG cs k hcs xs).2 ⟨hl', hxsa, by omega⟩, rfl⟩

theorem hammingSphere_spec (t : Bytes) (e : Nat) (ht : ∀ c ∈ t, c ∈ acgt) (s : Bytes) :
    s ∈ hammingSphere t e ↔ s.length = t.length ∧ (∀ c ∈ s, c ∈ acgt) ∧ Cutadapt.Spec.hamming (· == ·) s t = e := by
  unfold hammingSphere
  rw [hammingSphereK_eq_sphereG]
  exact mem_sphereG t e ht s

theorem nodup_map_cons (p : UInt8) (l : List Bytes) (h : l.Nodup) : (l.map (p :: ·)).Nodup := by
  refine List.Pairwise.map _ ?_ h
  intro a b hab heq
  exact hab (List.cons.inj heq).2

theorem sphereG_nodup : ∀ (t : Bytes) (k : Nat), (sphereG k t).Nodup
  | t, 0 => by simp [sphereG]
  | [], k+1 => by simp [sphereG]
  | c :: cs, k+1 => by
    simp only [sphereG]
    rw [List.nodup_append]
    refine ⟨?_, nodup_map_cons c _ (sphereG_nodup cs (k+1)), ?_⟩
    · rw [List.Nodup, List.pairwise_flatMap]
      refine ⟨fun p _ => nodup_map_cons p _ (sphereG_nodup cs k), ?_⟩
      refine List.Pairwise.imp ?_ (others_nodup c)
      intro p q hpq x hx y hy hxy
      obtain ⟨x', _, rfl⟩ := List.mem_map.1 hx
      obtain ⟨y', _, rfl⟩ := List.mem_map.1 hy
      exact hpq (List.cons.inj hxy).1
    · intro a ha b hb hab
      obtain ⟨p, hp, ha⟩ := List.mem_flatMap.1 ha
      obtain ⟨a', _, rfl⟩ := List.mem_map.1 ha
      obtain ⟨b', _, rfl⟩ := List.mem_map.1 hb
      exact ((mem_others p c).1 hp).2 (List.cons.inj hab).1

theorem hammingSphere_nodup (t : Bytes) (e : Nat) : (hammingSphere t e).Nodup := by
  unfold hammingSphere
  rw [hammingSphereK_eq_sphereG]
  exact sphereG_nodup t e

example : (hammingSphere [65, 67, 71] 3).length = 27 := by decide +kernel

example : (hammingSphere [65, 67, 71, 84] 3).length = 108 := by decide +kernel

/-- `"CCTT"` differs from `"ACGT"` at two positions, so the generator yields it for `k = 2` -/
example : [67, 67, 84, 84] ∈ hammingSphere [65, 67, 71, 84] 2 :=
  (hammingSphere_spec [65, 67, 71, 84] 2 (by decide) [67, 67, 84, 84]).2 (by decide)

/-- … and for no other `k` -/
example : [67, 67, 84, 84] ∉ hammingSphere [65, 67, 71, 84] 3 := fun h =>
  absurd ((hammingSphere_spec [65, 67, 71, 84] 3 (by decide) _).1 h).2.2 (by decide)

end Cutadapt.Index
