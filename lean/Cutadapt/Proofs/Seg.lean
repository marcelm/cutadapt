import Cutadapt.Basic
/-! What `seg` (the Python slice `xs[a:b]`) does under composition, `map`, reversal and indexing. -/
namespace Cutadapt

theorem seg_seg (xs : List α) (a b c d : Nat) : seg (seg xs a b) c d = seg xs (a + c) (min b (a + d)) := by
  unfold seg
  rw [List.take_drop, List.take_take, List.drop_drop]
  congr 2
  omega

theorem seg_of_length_le (xs : List α) (a b : Nat) (h : xs.length ≤ b) : seg xs a b = xs.drop a := by
  unfold seg; rw [List.take_of_length_le h]

theorem seg_zero (xs : List α) (b : Nat) : seg xs 0 b = xs.take b := by simp [seg]

theorem seg_length' (xs : List α) (a b : Nat) (hb : b ≤ xs.length) : (seg xs a b).length = b - a := by
  rw [seg_length]; omega

theorem seg_map (f : α → β) (xs : List α) (a b : Nat) : seg (xs.map f) a b = (seg xs a b).map f := by
  simp [seg, List.map_take, List.map_drop]

theorem mem_of_mem_seg {xs : List α} {a b : Nat} {x : α} (h : x ∈ seg xs a b) : x ∈ xs :=
  List.mem_of_mem_take (List.mem_of_mem_drop h)

theorem seg_getElem? {xs : List α} {a b i : Nat} {c : α} (h : (seg xs a b)[i]? = some c) : xs[a + i]? = some c := by
  unfold seg at h
  rw [List.getElem?_drop, List.getElem?_take] at h
  split at h
  · exact h
  · cases h

theorem seg_getD (xs : List α) (a b t : Nat) (d : α) (ht : a + t < b) :
    (seg xs a b).getD t d = xs.getD (a + t) d := by
  unfold seg
  rw [List.getD_eq_getElem?_getD, List.getD_eq_getElem?_getD, List.getElem?_drop, List.getElem?_take_of_lt ht]

theorem take_append_seg_append_drop (xs : List α) (a b : Nat) (h : a ≤ b) :
    xs.take a ++ seg xs a b ++ xs.drop b = xs := by
  unfold seg
  have : xs.take a = (xs.take b).take a := by rw [List.take_take]; congr 1; omega
  rw [this, List.take_append_drop, List.take_append_drop]

theorem seg_reverse (xs : List α) (a b : Nat) :
    (seg xs a b).reverse = seg xs.reverse (xs.length - b) (xs.length - a) := by
  unfold seg
  rw [List.reverse_drop, List.reverse_take, List.length_take, List.drop_take]
  congr 1
  omega

/-- for bounds inside the list, read from right to left -/
theorem seg_reverse_of_le (xs : List α) (a b : Nat) (hab : a ≤ b) (hb : b ≤ xs.length) :
    seg xs.reverse a b = (seg xs (xs.length - b) (xs.length - a)).reverse := by
  rw [seg_reverse]; congr 1 <;> omega

end Cutadapt
