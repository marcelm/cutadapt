import Cutadapt.Proofs.KmerChunks
/-! The levels of `create_back_overlap_searchsets`: every overlap length `L ≥ min_overlap` is served by a search set whose
    window is wide enough and whose k-mers are more chunks than errors allowed at `L` (C07). -/
namespace Cutadapt.Kmer
open Cutadapt

/-- what is used of `thr L = int(L * error_rate)` for an error rate in `[0, 1)` -/
structure ThrOK (thr : Nat → Nat) : Prop where
  zero : thr 0 = 0
  mono : ∀ x y, x ≤ y → thr x ≤ thr y
  step : ∀ x, thr (x + 1) ≤ thr x + 1
  lt : ∀ L, 1 ≤ L → thr L < L

/-- `es` lists, in order, `(e, len)` such that the lengths `q … len` are exactly those (from `q` on) with `thr = e`,
    and the last one ends at `m` -/
def Levels (thr : Nat → Nat) (m : Nat) : Nat → List (Nat × Nat) → Prop
  | q, [] => q = m + 1
  | q, (e, len) :: rest => q ≤ len ∧ len ≤ m ∧ (∀ L, q ≤ L → L ≤ len → thr L = e) ∧ Levels thr m (len + 1) rest

theorem errorLengthsGo_levels {thr : Nat → Nat} (h : ThrOK thr) (m : Nat) :
    ∀ fuel i me q, i + fuel = m → q ≤ i → (∀ L, q ≤ L → L ≤ i → thr L = me) →
      Levels thr m q (errorLengthsGo thr m fuel (i + 1) me) := by
  intro fuel
  induction fuel with
  | zero =>
    intro i me q hi hq hr
    rw [Nat.add_zero] at hi
    subst hi
    exact ⟨hq, Nat.le_refl _, hr, rfl⟩
  | succ fuel ih =>
    intro i me q hi hq hr
    -- `thr (i + 1)` is the level's value or, by `step`, one more
    have hstep := h.step i
    have hmono := h.mono i (i + 1) (Nat.le_succ i)
    rw [hr i hq (Nat.le_refl i)] at hstep hmono
    simp only [errorLengthsGo, Nat.add_sub_cancel]
    split
    · refine ⟨hq, by omega, hr, ih (i + 1) (me + 1) (i + 1) (by omega) (Nat.le_refl _) fun L a b => ?_⟩
      rw [Nat.le_antisymm b a]
      omega
    · rename_i hle
      refine ih (i + 1) me q (by omega) (Nat.le_succ_of_le hq) fun L a b => ?_
      rcases Nat.le_or_eq_of_le_succ b with hL | rfl
      · exact hr L a hL
      · exact Nat.le_antisymm (Nat.not_lt.mp hle) hmono

theorem errorLengths_levels {thr : Nat → Nat} (h : ThrOK thr) (m : Nat) : Levels thr m 0 (errorLengths thr m) := by
  rw [errorLengths, errorLengthsGo, if_neg (by rw [h.zero]; omega)]
  exact errorLengthsGo_levels h m m 0 0 0 (Nat.zero_add m) (Nat.le_refl 0) fun L _ hL => by
    rw [Nat.le_zero.mp hL]; exact h.zero

/-- search set `S` serves overlap length `L`: its window has room for `L` adapter characters plus the insertions allowed,
    and among its k-mers are more consecutive non-empty chunks of an adapter prefix no longer than `L` than errors are
    allowed at `L` -/
def Serves (ad : Bytes) (thr : Nat → Nat) (indels : Bool) (S : SearchSet) (L : Nat) : Prop :=
  ∃ (cs : List Bytes) (w M : Nat), S.start = -(w : Int) ∧ S.stop = none ∧ (∀ k ∈ cs, k ∈ S.kmers) ∧ (∀ k ∈ cs, k ≠ []) ∧
    cs.flatten = ad.take M ∧ M ≤ L ∧ thr L + 1 ≤ cs.length ∧ L + (if indels then thr L else 0) ≤ w

theorem backSetsGo_cons_skip {ad : Bytes} {ind : Bool} {e len : Nat} {rest : List (Nat × Nat)} {ml : Nat} (h : len < ml) :
    backSetsGo ad ind ((e, len) :: rest) ml = backSetsGo ad ind rest ml := by
  rw [backSetsGo, if_pos h]

theorem mem_backSetsGo_cons {ad : Bytes} {ind : Bool} {e len : Nat} {rest : List (Nat × Nat)} {ml : Nat} {S : SearchSet}
    (h : ml ≤ len) :
    S ∈ backSetsGo ad ind ((e, len) :: rest) ml ↔
      (e = 0 ∧ ∃ i, ml ≤ i ∧ i < 5 ∧ S = ⟨-(i : Int), none, [ad.take i]⟩) ∨
      S = ⟨-((len + if ind then e else 0 : Nat) : Int), none,
        kmerChunks (ad.take (if e = 0 ∧ ml < 5 then 5 else ml)) (e + 1)⟩ ∨
      S ∈ backSetsGo ad ind rest (len + 1) := by
  rw [backSetsGo, if_neg (Nat.not_lt.mpr h)]
  simp only [List.mem_append, List.mem_cons, Bool.and_eq_true, beq_iff_eq, decide_eq_true_eq]
  refine or_congr_left ?_
  split
  · rename_i hs
    simp only [List.mem_map, List.mem_range'_1, hs.1, true_and]
    constructor
    · rintro ⟨i, ⟨h1, h2⟩, rfl⟩; exact ⟨i, h1, by omega, rfl⟩
    · rintro ⟨i, h1, h2, rfl⟩; exact ⟨i, ⟨h1, by omega⟩, rfl⟩
  · rename_i hs
    simp only [List.not_mem_nil, false_iff, not_and, not_exists]
    intro he i h1 h2
    exact absurd ⟨he, by omega⟩ hs

theorem level_errors_lt {thr : Nat → Nat} (h : ThrOK thr) {q ml e : Nat} (hml : 1 ≤ ml) (h2 : q ≤ ml) (he : thr q = e) :
    e + 1 ≤ ml := by
  subst he
  rcases Nat.eq_zero_or_pos q with rfl | hq
  · rw [h.zero]; exact hml
  · exact Nat.le_trans (h.lt q hq) h2

theorem take_ne_nil {s : Bytes} {i : Nat} (hi : 1 ≤ i) (hs : 1 ≤ s.length) : s.take i ≠ [] :=
  List.ne_nil_of_length_pos (by rw [List.length_take]; omega)

theorem serves_exact (ad : Bytes) {thr : Nat → Nat} (indels : Bool) {L : Nat} (hL : 1 ≤ L) (hLad : L ≤ ad.length)
    (h0 : thr L = 0) : Serves ad thr indels ⟨-(L : Int), none, [ad.take L]⟩ L := by
  refine ⟨[ad.take L], L, L, rfl, rfl, fun k hk => hk, fun k hk => ?_, List.flatten_singleton, Nat.le_refl L,
    by rw [h0]; exact Nat.le_refl 1, by rw [h0]; split <;> exact Nat.le_refl L⟩
  rw [List.mem_singleton.mp hk]
  exact take_ne_nil hL (Nat.le_trans hL hLad)

theorem serves_chunks (ad : Bytes) {thr : Nat → Nat} (indels : Bool) {L e ml1 len : Nat} (he : thr L = e) (h1 : e + 1 ≤ ml1)
    (h2 : ml1 ≤ L) (h3 : L ≤ len) (hLad : L ≤ ad.length) :
    Serves ad thr indels ⟨-((len + if indels then e else 0 : Nat) : Int), none, kmerChunks (ad.take ml1) (e + 1)⟩ L := by
  obtain ⟨hflat, hcount, _, hne⟩ := kmerChunksList_spec (ad.take ml1) (e + 1) (Nat.succ_le_succ (Nat.zero_le e))
    (by rw [List.length_take]; omega)
  exact ⟨_, _, ml1, rfl, rfl, fun k hk => mem_kmerChunks.mpr hk, hne, hflat, h2, by rw [he, hcount]; exact Nat.le_refl _,
    by rw [he]; exact Nat.add_le_add_right h3 _⟩

theorem backSetsGo_serves {thr : Nat → Nat} (h : ThrOK thr) (ad : Bytes) (indels : Bool) (mo : Nat) (hmo : 1 ≤ mo)
    (L : Nat) (hLad : L ≤ ad.length) :
    ∀ es q ml, Levels thr ad.length q es → mo ≤ ml → q ≤ ml → ml ≤ L →
      ∃ S ∈ backSetsGo ad indels es ml, Serves ad thr indels S L
  | [], q, ml, hlev, _, _, _ => by have : q = ad.length + 1 := hlev; omega
  | (e, len) :: rest, q, ml, ⟨hq, hlen, hthr, hrest⟩, h1, h2, h3 => by
    have he : e + 1 ≤ ml := level_errors_lt h (Nat.le_trans hmo h1) h2 (hthr q (Nat.le_refl _) hq)
    by_cases hskip : len < ml
    · rw [backSetsGo_cons_skip hskip]
      exact backSetsGo_serves h ad indels mo hmo L hLad rest (len + 1) ml hrest h1 hskip h3
    · by_cases hLl : L ≤ len
      · have hthrL : thr L = e := hthr L (Nat.le_trans h2 h3) hLl
        by_cases hex : e = 0 ∧ L < 5
        · exact ⟨_, (mem_backSetsGo_cons (Nat.not_lt.mp hskip)).mpr (Or.inl ⟨hex.1, L, h3, hex.2, rfl⟩),
            serves_exact ad indels (by omega) hLad (hthrL.trans hex.1)⟩
        · exact ⟨_, (mem_backSetsGo_cons (Nat.not_lt.mp hskip)).mpr (Or.inr (Or.inl rfl)),
            serves_chunks ad indels hthrL (by split <;> omega) (by split <;> omega) hLl hLad⟩
      · obtain ⟨S, hS, hserv⟩ := backSetsGo_serves h ad indels mo hmo L hLad rest (len + 1) (len + 1) hrest (by omega)
          (Nat.le_refl _) (by omega)
        exact ⟨S, (mem_backSetsGo_cons (Nat.not_lt.mp hskip)).mpr (Or.inr (Or.inr hS)), hserv⟩

theorem backSetsGo_stop_start (ad : Bytes) (indels : Bool) :
    ∀ es ml, ∀ S ∈ backSetsGo ad indels es ml, S.stop = none ∧ (1 ≤ ml → S.start < 0)
  | [], _, S, hS => by simp [backSetsGo] at hS
  | (e, len) :: rest, ml, S, hS => by
    by_cases h : ml ≤ len
    · rcases (mem_backSetsGo_cons h).mp hS with ⟨_, i, hi, _, rfl⟩ | rfl | hS
      · exact ⟨rfl, fun _ => by simp only; omega⟩
      · exact ⟨rfl, fun _ => by simp only; omega⟩
      · obtain ⟨hstop, hstart⟩ := backSetsGo_stop_start ad indels rest _ S hS
        exact ⟨hstop, fun _ => hstart (by omega)⟩
    · rw [backSetsGo_cons_skip (by omega)] at hS
      exact backSetsGo_stop_start ad indels rest ml S hS

theorem backSetsGo_ne {thr : Nat → Nat} (h : ThrOK thr) (ad : Bytes) (had : 1 ≤ ad.length) (indels : Bool) (mo : Nat)
    (hmo : 1 ≤ mo) :
    ∀ es q ml, Levels thr ad.length q es → mo ≤ ml → q ≤ ml →
      ∀ S ∈ backSetsGo ad indels es ml, ∀ k ∈ S.kmers, k ≠ []
  | [], _, _, _, _, _, S, hS => by simp [backSetsGo] at hS
  | (e, len) :: rest, q, ml, ⟨hq, hlen, hthr, hrest⟩, h1, h2, S, hS => by
    by_cases hskip : len < ml
    · rw [backSetsGo_cons_skip hskip] at hS
      exact backSetsGo_ne h ad had indels mo hmo rest (len + 1) ml hrest h1 hskip S hS
    · rcases (mem_backSetsGo_cons (Nat.not_lt.mp hskip)).mp hS with ⟨_, i, hi, _, rfl⟩ | rfl | hS
      · intro k hk
        rw [List.mem_singleton.mp hk]
        exact take_ne_nil (by omega) had
      · have he : e + 1 ≤ ml := level_errors_lt h (Nat.le_trans hmo h1) h2 (hthr q (Nat.le_refl _) hq)
        intro k hk
        refine (kmerChunksList_spec _ (e + 1) (Nat.succ_le_succ (Nat.zero_le e)) ?_).2.2.2 k (mem_kmerChunks.mp hk)
        rw [List.length_take]
        split <;> omega
      · exact backSetsGo_ne h ad had indels mo hmo rest (len + 1) (len + 1) hrest (by omega) (Nat.le_refl _) S hS

theorem backSets_serves {thr : Nat → Nat} (h : ThrOK thr) (ad : Bytes) (indels : Bool) (mo : Nat) (hmo : 1 ≤ mo)
    (L : Nat) (h1 : mo ≤ L) (h2 : L ≤ ad.length) :
    ∃ S ∈ createBackOverlapSearchsets ad mo thr indels, Serves ad thr indels S L :=
  backSetsGo_serves h ad indels mo hmo L h2 _ 0 mo (errorLengths_levels h ad.length) (Nat.le_refl mo) (Nat.zero_le mo) h1

theorem backSets_stop (ad : Bytes) (mo : Nat) (thr : Nat → Nat) (indels : Bool) :
    ∀ S ∈ createBackOverlapSearchsets ad mo thr indels, S.stop = none :=
  fun S hS => (backSetsGo_stop_start ad indels _ mo S hS).1

theorem backSets_start_neg (ad : Bytes) (mo : Nat) (thr : Nat → Nat) (indels : Bool) (hmo : 1 ≤ mo) :
    ∀ S ∈ createBackOverlapSearchsets ad mo thr indels, S.start < 0 :=
  fun S hS => (backSetsGo_stop_start ad indels _ mo S hS).2 hmo

theorem backSets_ne {thr : Nat → Nat} (h : ThrOK thr) (ad : Bytes) (had : 1 ≤ ad.length) (indels : Bool) (mo : Nat)
    (hmo : 1 ≤ mo) : ∀ S ∈ createBackOverlapSearchsets ad mo thr indels, ∀ k ∈ S.kmers, k ≠ [] :=
  backSetsGo_ne h ad had indels mo hmo _ 0 mo (errorLengths_levels h ad.length) (Nat.le_refl mo) (Nat.zero_le mo)

end Cutadapt.Kmer
