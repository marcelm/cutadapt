import Cutadapt.Proofs.IndexFold
import Cutadapt.Proofs.IndexSphere
/-! `lengths` of `_make_index`: every key's length is in it, and every member is the length of an offered string; it is
    sorted in descending order; for equally long adapters without indels it is that one length. -/
namespace Cutadapt.Index
open Cutadapt Cutadapt.Adapters

theorem setAdd_mem (l : List Nat) (x y : Nat) : y ∈ setAdd l x ↔ y = x ∨ y ∈ l := by
  unfold setAdd
  split
  · rename_i h
    have hx : x ∈ l := by simpa using h
    exact ⟨Or.inr, fun h => h.elim (· ▸ hx) id⟩
  · simp

theorem setAdd_nodup (l : List Nat) (x : Nat) (h : l.Nodup) : (setAdd l x).Nodup := by
  unfold setAdd
  split
  · exact h
  · rename_i hc
    exact List.nodup_cons.mpr ⟨mt List.contains_iff_mem.mpr hc, h⟩

theorem mem_insertDesc (x y : Nat) (l : List Nat) : y ∈ insertDesc x l ↔ y = x ∨ y ∈ l := by
  induction l with
  | nil => simp [insertDesc]
  | cons z zs ih =>
    simp only [insertDesc]
    split
    · simp
    · simp only [List.mem_cons, ih]
      exact or_left_comm

theorem mem_sortDesc (y : Nat) (l : List Nat) : y ∈ sortDesc l ↔ y ∈ l := by
  induction l with
  | nil => simp [sortDesc]
  | cons x xs ih =>
    simp only [sortDesc, List.foldr_cons] at ih ⊢
    rw [mem_insertDesc, ih]; simp

theorem insertDesc_pairwise (x : Nat) (l : List Nat) (h : l.Pairwise (· ≥ ·)) : (insertDesc x l).Pairwise (· ≥ ·) := by
  induction l with
  | nil => simp [insertDesc]
  | cons z zs ih =>
    rw [List.pairwise_cons] at h
    simp only [insertDesc]
    split
    · rename_i hzx
      refine List.pairwise_cons.mpr ⟨?_, List.pairwise_cons.mpr h⟩
      intro a ha
      rcases List.mem_cons.mp ha with rfl | ha
      · exact hzx
      · exact Nat.le_trans (h.1 a ha) hzx
    · rename_i hzx
      refine List.pairwise_cons.mpr ⟨?_, ih h.2⟩
      intro a ha
      rcases (mem_insertDesc _ _ _).mp ha with rfl | ha
      · exact Nat.le_of_not_le hzx
      · exact h.1 a ha

theorem sortDesc_pairwise (l : List Nat) : (sortDesc l).Pairwise (· ≥ ·) := by
  induction l with
  | nil => simp [sortDesc]
  | cons x xs ih => exact insertDesc_pairwise x _ ih

theorem items_noindel_mem (a : Adapter) (hi : a.indels = false) (s : Bytes) (e m : Nat) :
    (s, e, m) ∈ adapterItems a ↔ e ≤ adapterK a ∧ s ∈ hammingSphere a.seq e ∧ m = a.seq.length - e := by
  unfold adapterItems
  simp only [hi, Bool.false_eq_true, if_false, List.mem_flatMap, List.mem_range, List.mem_map, Prod.mk.injEq]
  constructor
  · rintro ⟨e', he', s', hs', rfl, rfl, rfl⟩
    exact ⟨by omega, hs', rfl⟩
  · rintro ⟨he, hs, rfl⟩
    exact ⟨e, by omega, s, hs, rfl, rfl, rfl⟩

theorem items_noindel_length (a : Adapter) (ha : ∀ c ∈ a.seq, c ∈ acgt) (hi : a.indels = false) :
    ∀ it ∈ adapterItems a, it.1.length = a.seq.length := fun (s, e, _) hit =>
  ((hammingSphere_spec a.seq e ha s).mp ((items_noindel_mem a hi _ _ _).mp hit).2.1).1

theorem items_noindel_self (a : Adapter) (hi : a.indels = false) : (a.seq, 0, a.seq.length) ∈ adapterItems a :=
  (items_noindel_mem a hi _ _ _).mpr ⟨Nat.zero_le _, by simp [hammingSphere, hammingSphereK], rfl⟩

/-- `KeyLen n`: every key's length is in `lengths` or equals `n` (the pending `lengths.add(n)` of the Hamming branch) -/
def KeyLen {D : Type} (ops : DictOps D) (st : Build D) (n : Option Nat) : Prop :=
  ∀ s, ops.get? st.index s ≠ none → s.length ∈ st.lengths ∨ some s.length = n

def LenOffered {D : Type} (evs : List Ev) (st : Build D) : Prop :=
  ∀ l ∈ st.lengths, ∃ ev ∈ evs, ev.key.length = l

theorem len_addEntry {D : Type} (ops : DictOps D) (hl : ops.Lawful) (ai : Nat) (addLen : Bool) (n : Option Nat)
    (it : Bytes × Nat × Nat) (hn : addLen = false → some it.1.length = n) (evs : List Ev) (st : Build D)
    (h : KeyLen ops st n ∧ LenOffered evs st) :
    KeyLen ops (addEntry ops ai addLen st it) n ∧
    LenOffered (evs ++ [⟨ai, it.1, it.2.1, it.2.2⟩]) (addEntry ops ai addLen st it) := by
  obtain ⟨key, e, m⟩ := it
  have mono : ∀ l ∈ st.lengths, ∃ ev ∈ evs ++ [(⟨ai, key, e, m⟩ : Ev)], ev.key.length = l := fun l hl' =>
    (h.2 l hl').imp fun ev hev => ⟨List.mem_append_left _ hev.1, hev.2⟩
  rcases addEntry_cases ops ai addLen e st key m with ⟨heq, _⟩ | ⟨hidx, hlen⟩
  · rw [heq]; exact ⟨h.1, mono⟩
  · constructor
    · intro s hs
      rw [hidx, hl.get?_insert] at hs
      rw [hlen]
      by_cases hk : key = s
      · subst hk
        cases addLen with
        | true => left; simp [setAdd_mem]
        | false => right; exact hn rfl
      · rw [if_neg hk] at hs
        refine (h.1 s hs).imp_left fun h' => ?_
        cases addLen with
        | true => simp [setAdd_mem, h']
        | false => exact h'
    · intro l hl'
      rw [hlen] at hl'
      cases addLen with
      | true =>
        rcases (setAdd_mem _ _ _).mp hl' with rfl | hl'
        · exact ⟨⟨ai, key, e, m⟩, by simp, rfl⟩
        · exact mono l hl'
      | false => exact mono l hl'

theorem len_addAdapter {D : Type} (ops : DictOps D) (hl : ops.Lawful) (a : Adapter) (ai : Nat)
    (ha : ∀ c ∈ a.seq, c ∈ acgt) (evs : List Ev) (st : Build D) (h : KeyLen ops st none ∧ LenOffered evs st) :
    KeyLen ops (addAdapter ops st (a, ai)) none ∧ LenOffered (evs ++ adapterEvents (a, ai)) (addAdapter ops st (a, ai)) := by
  refine addAdapter_ind ops a ai
    (fun evs st => KeyLen ops st (if a.indels then none else some a.seq.length) ∧ LenOffered evs st)
    (fun evs st => KeyLen ops st none ∧ LenOffered evs st)
    (fun it hit evs st => len_addEntry ops hl ai a.indels _ it
      (fun hi => by rw [hi, items_noindel_length a ha hi it hit]; rfl) evs st)
    evs st ?_ ⟨fun s hs => (h.1 s hs).imp_right nofun, h.2⟩
  intro st' ⟨k1, k2⟩
  cases hi : a.indels
  · -- Hamming branch: `lengths.add(n)` after the loops
    simp only [hi, Bool.false_eq_true, if_false] at k1 ⊢
    constructor
    · intro s hs
      exact .inl ((setAdd_mem _ _ _).mpr ((k1 s hs).symm.imp (fun h' => (Option.some.inj h')) id))
    · intro l hl'
      rcases (setAdd_mem _ _ _).mp hl' with rfl | hl'
      · exact ⟨⟨ai, a.seq, 0, a.seq.length⟩,
          List.mem_append_right _ (List.mem_map.mpr ⟨_, items_noindel_self a hi, rfl⟩), rfl⟩
      · exact k2 l hl'
  · simp only [hi, if_true] at k1 ⊢
    exact ⟨k1, k2⟩

/-- **`lengths` after `_make_index`** (adapters over ACGT): the length of every key of the index is a member, and
    every member is the length of a string some adapter offered. -/
theorem buildAll_lengths {D : Type} (ops : DictOps D) (hl : ops.Lawful) (adapters : List Adapter)
    (ha : ∀ a ∈ adapters, ∀ c ∈ a.seq, c ∈ acgt) :
    (∀ s, ops.get? (buildAll ops adapters).index s ≠ none → s.length ∈ (buildAll ops adapters).lengths) ∧
    (∀ l ∈ (buildAll ops adapters).lengths, ∃ ev ∈ events adapters, ev.key.length = l) := by
  have := buildAll_ind ops adapters (fun evs st => KeyLen ops st none ∧ LenOffered evs st)
    ⟨fun s hs => by simp [hl.get?_empty] at hs, fun l hl' => by simp at hl'⟩
    fun a ai hai => len_addAdapter ops hl a ai (ha a (List.mem_of_getElem? hai))
  exact ⟨fun s hs => (this.1 s hs).elim id nofun, this.2⟩

theorem addEntry_lengths_false {D : Type} (ops : DictOps D) (ai : Nat) (st : Build D) (it : Bytes × Nat × Nat) :
    (addEntry ops ai false st it).lengths = st.lengths := by
  obtain ⟨s, e, m⟩ := it
  rcases addEntry_cases ops ai false e st s m with ⟨h, _⟩ | ⟨_, h⟩
  · rw [h]
  · exact h

theorem addAdapter_lengths_noindel {D : Type} (ops : DictOps D) (st : Build D) (a : Adapter) (ai : Nat)
    (hi : a.indels = false) : (addAdapter ops st (a, ai)).lengths = setAdd st.lengths a.seq.length := by
  have : ((adapterItems a).foldl (addEntry ops ai false) st).lengths = st.lengths :=
    List.foldlRecOn (motive := fun b : Build D => b.lengths = st.lengths) _ _ rfl fun b hb it _ => by
      rw [addEntry_lengths_false, hb]
  simp only [addAdapter, hi, Bool.false_eq_true, if_false, this]

theorem makeIndex_lengths_equal {D : Type} (ops : DictOps D) (adapters : List Adapter) (isPrefix : Bool) (L : Nat)
    (hne : adapters ≠ []) (hl : ∀ a ∈ adapters, a.indels = false ∧ a.seq.length = L) :
    (makeIndex ops adapters isPrefix).lengths = [L] := by
  -- after the first adapter `lengths` is `[L]` and stays so
  have step : ∀ (st : Build D) (p : Adapter × Nat), p.1 ∈ adapters → st.lengths = [] ∨ st.lengths = [L] →
      (addAdapter ops st p).lengths = [L] := by
    intro st p hp hst
    rw [addAdapter_lengths_noindel ops st p.1 p.2 (hl _ hp).1, (hl _ hp).2]
    rcases hst with h | h <;> simp [h, setAdd]
  obtain ⟨a, as, rfl⟩ := List.exists_cons_of_ne_nil hne
  show sortDesc (((a :: as).zipIdx).foldl (addAdapter ops) ⟨ops.empty, [], ops.empty, []⟩).lengths = [L]
  rw [List.zipIdx_cons, List.foldl_cons]
  exact congrArg sortDesc <| List.foldlRecOn (motive := fun st : Build D => st.lengths = [L]) _ _
    (step _ (a, 0) List.mem_cons_self (.inl rfl)) fun st hst q hq =>
      step st q (List.mem_cons_of_mem _ (List.fst_mem_of_mem_zipIdx hq)) (.inr hst)

end Cutadapt.Index
