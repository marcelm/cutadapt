import Cutadapt.Proofs.StepsMake
import Cutadapt.Proofs.StepsFate
/-! Shape of the step list that `makeSteps` builds: terminal, ordered by rank, distinct identifiers, fresh writer indices;
    the pair mode of its filter steps (`AllMode`); the lists for single-end and paired-end input. -/
namespace Cutadapt.Steps
open Cutadapt

/-- Position of a filter criterion in the order in which `make_pipeline_from_args` appends the filters. `isTrimmed` and
    `isUntrimmed` share a place: `finalOk` admits at most one of `--discard-trimmed` and the untrimmed options. -/
def predRank : Pred → Nat
  | .tooShort _ => 1
  | .tooLong _ => 2
  | .tooManyN _ => 3
  | .maxEE _ => 4
  | .maxAER _ => 5
  | .casava => 6
  | .isTrimmed => 7
  | .isUntrimmed => 7

/-- Position of a step in that order: the writers of the rest/info/wildcard files 0 (they come first, in any number, hence the
    exemption in `RankLt`), a filter by its criterion (R1's, else R2's), the sink and the demultiplexers last. -/
def stepRank : Step → Nat
  | .restWriter _ => 0
  | .infoWriter _ => 0
  | .wildcardWriter _ => 0
  | .filter (some p) _ _ _ => predRank p
  | .filter none (some p) _ _ => predRank p
  | .filter none none _ _ => 0
  | .sink _ => 8
  | .demux .. => 8
  | .combDemux _ => 8

/-- strictly increasing rank, except among the text-file writers -/
def RankLt (a b : Step) : Prop := stepRank a < stepRank b ∨ (stepRank a = 0 ∧ stepRank b = 0)

/-- invariants of a step list under construction: pass-through steps only, (under the side condition `B`) ordered with
    all ranks `≤ hi`, identifiers a sublist of `ids`, record-writer indices below `n` -/
structure Built (B : Prop) (steps : List Step) (hi : Nat) (ids : List String) (n : Nat) : Prop where
  pass : ∀ s ∈ steps, s.isPass = true
  ord : B → steps.Pairwise RankLt
  le : B → ∀ s ∈ steps, stepRank s ≤ hi
  idents : (steps.filterMap Step.filterIdent).Sublist ids
  below : ∀ s ∈ steps, ∀ w ∈ s.writers, w < n

theorem Built.nil (B : Prop) (hi n : Nat) : Built B [] hi [] n :=
  ⟨by simp, fun _ => by simp, fun _ => by simp, by simp, by simp⟩

theorem Built.mono {B steps hi ids n} (h : Built B steps hi ids n) {hi' n' : Nat} (h1 : hi ≤ hi') (h2 : n ≤ n') :
    Built B steps hi' ids n' :=
  ⟨h.pass, h.ord, fun b s hs => Nat.le_trans (h.le b s hs) h1, h.idents,
   fun s hs w hw => Nat.lt_of_lt_of_le (h.below s hs w hw) h2⟩

theorem Built.snoc {B steps hi ids n} (h : Built B steps hi ids n) (s : Step) (hp : s.isPass = true) (r : Nat)
    (hrk : B → stepRank s = r) (hr : hi < r ∨ (hi = 0 ∧ r = 0)) {ids' : List String}
    (hid : s.filterIdent.toList = ids') {n' : Nat} (hn : n ≤ n') (hw : ∀ w ∈ s.writers, w < n') :
    Built B (steps ++ [s]) r (ids ++ ids') n' :=
  have all_snoc {p : Step → Prop} (hl : ∀ x ∈ steps, p x) (hs : p s) : ∀ x ∈ steps ++ [s], p x :=
    List.forall_mem_append.2 ⟨hl, List.forall_mem_singleton.2 hs⟩
  { pass := all_snoc h.pass hp
    ord := fun b => List.pairwise_append.2 ⟨h.ord b, List.pairwise_singleton _ _, fun a ha c hc => by
      cases List.mem_singleton.1 hc
      have := h.le b a ha
      have := hrk b
      rcases hr with hr | ⟨h0, hs0⟩
      · exact .inl (by omega)
      · exact .inr ⟨by omega, by omega⟩⟩
    le := fun b => all_snoc (fun x hx => by have := h.le b x hx; omega) (Nat.le_of_eq (hrk b))
    idents := by
      rw [List.filterMap_append, ← hid]
      refine h.idents.append ?_
      cases hs : s.filterIdent <;> simp [hs]
    below := all_snoc (fun x hx w hw' => Nat.lt_of_lt_of_le (h.below x hx w hw') hn) hw }

theorem Built.ids_mono {B steps hi ids n} (h : Built B steps hi ids n) {ids' : List String} (hs : ids.Sublist ids') :
    Built B steps hi ids' n :=
  ⟨h.pass, h.ord, h.le, h.idents.trans hs, h.below⟩

theorem Built.snoc_opt {B steps hi ids n} (h : Built B steps hi ids n) (l : List Step) (r : Nat) (id : String) {n' : Nat}
    (hl : l = [] ∨ ∃ s, l = [s] ∧ s.isPass = true ∧ (B → stepRank s = r) ∧
      (s.filterIdent = some id ∨ s.filterIdent = none) ∧ ∀ w ∈ s.writers, w < n')
    (hr : hi < r) (hn : n ≤ n') : Built B (steps ++ l) r (ids ++ [id]) n' := by
  rcases hl with rfl | ⟨s, rfl, hp, hrk, hid | hid, hw⟩
  · simpa using (h.mono (Nat.le_of_lt hr) hn).ids_mono (List.sublist_append_left ids [id])
  · exact h.snoc s hp r hrk (.inl hr) (by simp [hid]) hn hw
  · have := h.snoc s hp r hrk (.inl hr) (ids' := []) (by simp [hid]) hn hw
    exact this.ids_mono (by simp)

/-- a `-m`/`-M` specification gives at least one usable bound -/
def lenBounded (paired : Bool) (l : Option (Option Int × Option Int)) : Prop :=
  ∀ x, l = some x → x.1.isSome = true ∨ (paired = true ∧ x.2.isSome = true)

theorem addText_built {B : Prop} {st : Files × List Step} {n : Nat} (p : Option String) (mk : Nat → Step)
    (hmk : ∀ i, (mk i).isPass = true ∧ stepRank (mk i) = 0 ∧ (mk i).filterIdent = none ∧ (mk i).writers = [])
    (h : Built B st.2 0 [] n) :
    Built B (addText p mk st).2 0 [] n ∧ (addText p mk st).1.writers = st.1.writers := by
  cases p with
  | none => exact ⟨h, rfl⟩
  | some p =>
    obtain ⟨h1, h2, h3, h4⟩ := hmk (st.1.openText p).2
    refine ⟨?_, rfl⟩
    have := h.snoc (mk (st.1.openText p).2) h1 0 (fun _ => h2) (Or.inr ⟨rfl, rfl⟩) (ids' := []) (by rw [h3]; rfl) (Nat.le_refl n) (by rw [h4]; simp)
    simpa [addText] using this

theorem addLen_built {B : Prop} {st : Files × List Step} {hi : Nat} {ids : List String} (paired : Bool) (mode : PairMode)
    (l : Option (Option Int × Option Int)) (mk : Int → Pred) (out outP : Option String) (r : Nat) (id : String)
    (hmk : ∀ c, predRank (mk c) = r ∧ (mk c).ident = id) (hb : B → lenBounded paired l) (hr : hi < r)
    (h : Built B st.2 hi ids st.1.writers.length) :
    Built B (addLen paired mode l mk out outP st).2 r (ids ++ [id]) (addLen paired mode l mk out outP st).1.writers.length := by
  cases l with
  | none => simpa [addLen] using h.snoc_opt [] r id (.inl rfl) hr (Nat.le_refl _)
  | some x =>
    obtain ⟨g1, -, g3⟩ := filterWriter_spec paired st.1 out outP
    simp only [addLen]
    refine h.snoc_opt _ r id (.inr ⟨_, rfl, rfl, ?_, ?_, ?_⟩) hr g1
    · intro hB
      obtain ⟨a, b⟩ := x
      rcases hb hB _ rfl with h1 | ⟨h1, h2⟩
      · obtain ⟨a, rfl⟩ := Option.isSome_iff_exists.1 h1
        cases paired <;> simp [lengthPreds, stepRank, (hmk a).1]
      · subst h1
        obtain ⟨b, rfl⟩ := Option.isSome_iff_exists.1 h2
        cases a <;> simp [lengthPreds, stepRank, (hmk _).1]
    · obtain ⟨a, b⟩ := x
      cases a with
      | some a => left; cases paired <;> simp [lengthPreds, Step.filterIdent, (hmk a).2]
      | none =>
        cases b with
        | some b => cases paired <;> simp [lengthPreds, Step.filterIdent, (hmk b).2]
        | none => right; cases paired <;> simp [lengthPreds, Step.filterIdent]
    · intro w hw
      simp only [Step.writers, Option.mem_toList] at hw
      exact (g3 w hw).2

theorem bothStep_spec (paired : Bool) (mode : PairMode) (p : Pred) :
    (bothStep paired mode p).isPass = true ∧ stepRank (bothStep paired mode p) = predRank p ∧
    (bothStep paired mode p).filterIdent = some p.ident ∧ (bothStep paired mode p).writers = [] := by
  cases paired <;> simp [bothStep, Step.isPass, stepRank, Step.filterIdent, Step.writers]

theorem optSteps_built {B : Prop} {steps hi ids n} (h : Built B steps hi ids n) (x : Option α) (cond : Bool) (paired : Bool)
    (mode : PairMode) (mk : α → Pred) (r : Nat) (id : String) (hmk : ∀ c, predRank (mk c) = r ∧ (mk c).ident = id)
    (hr : hi < r) : Built B (steps ++ optSteps x cond (fun c => bothStep paired mode (mk c))) r (ids ++ [id]) n := by
  refine h.snoc_opt _ r id ?_ hr (Nat.le_refl n)
  cases x with
  | none => exact .inl rfl
  | some c =>
    cases cond with
    | false => exact .inl rfl
    | true =>
      obtain ⟨h1, h2, h3, h4⟩ := bothStep_spec paired mode (mk c)
      exact .inr ⟨_, rfl, h1, fun _ => by rw [h2, (hmk c).1], .inl (by rw [h3, (hmk c).2]), by simp [h4]⟩

/-- both length options, when given, carry a usable bound (always true for what `parse_lengths` accepts) -/
def LenBounds (o : Opts) : Prop := lenBounded o.paired o.minLen ∧ lenBounded o.paired o.maxLen

def sixIds : List String :=
  ["too_short", "too_long", "too_many_n", "too_many_expected_errors", "too_high_average_error_rate", "casava_filtered"]
/-- the identifiers of the filter steps in the order in which the steps are assembled; the same list as `C04.documentedKeys` -/
def allIds : List String := sixIds ++ ["discard_trimmed", "discard_untrimmed"]

theorem front_built {B : Prop} (o : Opts) (hb : B → LenBounds o) :
    Built B (front o).2 2 ["too_short", "too_long"] (front o).1.writers.length := by
  have t0 : Built B (({}, []) : Files × List Step).2 0 [] 0 := Built.nil B 0 0
  obtain ⟨t1, w1⟩ := addText_built o.restFile .restWriter (fun i => ⟨rfl, rfl, rfl, rfl⟩) t0
  obtain ⟨t2, w2⟩ := addText_built o.infoFile .infoWriter (fun i => ⟨rfl, rfl, rfl, rfl⟩) t1
  obtain ⟨t3, w3⟩ := addText_built o.wildcardFile .wildcardWriter (fun i => ⟨rfl, rfl, rfl, rfl⟩) t2
  have t4 := addLen_built o.paired (o.pairFilter.getD .any) o.minLen .tooShort o.tooShortOut o.tooShortPaired 1 "too_short"
    (fun c => ⟨rfl, rfl⟩) (fun b => (hb b).1) Nat.one_pos (t3.mono (Nat.le_refl 0) (Nat.zero_le _))
  exact addLen_built o.paired (o.pairFilter.getD .any) o.maxLen .tooLong o.tooLongOut o.tooLongPaired 2 "too_long"
    (fun c => ⟨rfl, rfl⟩) (fun b => (hb b).2) (Nat.lt_succ_self 1) t4

theorem simple_built {B : Prop} (o : Opts) (hb : B → LenBounds o) :
    Built B ((front o).2 ++ simpleSteps o) 6 sixIds (front o).1.writers.length := by
  have t0 := front_built o hb
  have t1 := optSteps_built t0 o.maxN true o.paired (o.pairFilter.getD .any) .tooManyN 3 "too_many_n"
    (fun c => ⟨rfl, rfl⟩) (by omega)
  have t2 := optSteps_built t1 o.maxEE o.inputHasQualities o.paired (o.pairFilter.getD .any) .maxEE 4
    "too_many_expected_errors" (fun c => ⟨rfl, rfl⟩) (by omega)
  have t3 := optSteps_built t2 o.maxAER o.inputHasQualities o.paired (o.pairFilter.getD .any) .maxAER 5
    "too_high_average_error_rate" (fun c => ⟨rfl, rfl⟩) (by omega)
  have t4 : Built B (_ ++ if o.discardCasava = true then [bothStep o.paired (o.pairFilter.getD .any) .casava] else []) _ _ _ :=
    optSteps_built t3 (some ()) o.discardCasava o.paired (o.pairFilter.getD .any) (fun _ => .casava) 6 "casava_filtered"
      (fun _ => ⟨rfl, rfl⟩) (by omega)
  simpa [simpleSteps, sixIds, List.append_assoc] using t4

/-- every filter step of `l` judges a pair by `m` -/
def AllMode (m : PairMode) (l : List Step) : Prop := ∀ p1 p2 mode w, Step.filter p1 p2 mode w ∈ l → mode = m

theorem AllMode.append {m : PairMode} {a b : List Step} (ha : AllMode m a) (hb : AllMode m b) : AllMode m (a ++ b) :=
  fun p1 p2 mode w h => (List.mem_append.1 h).elim (ha p1 p2 mode w) (hb p1 p2 mode w)

theorem allMode_nil (m : PairMode) : AllMode m [] := fun _ _ _ _ h => nomatch h

theorem allMode_bothStep (paired : Bool) (mode : PairMode) (p : Pred) : AllMode mode [bothStep paired mode p] := by
  intro p1 p2 m w h
  rw [List.mem_singleton] at h
  cases paired <;> cases h <;> rfl

theorem addText_allMode {m : PairMode} {st : Files × List Step} (p : Option String) {mk : Nat → Step}
    (hmk : ∀ i p1 p2 mode w, Step.filter p1 p2 mode w ≠ mk i) (h : AllMode m st.2) : AllMode m (addText p mk st).2 := by
  cases p with
  | none => exact h
  | some p => exact h.append (fun p1 p2 mode w hm => absurd (List.mem_singleton.1 hm) (hmk _ _ _ _ _))

theorem addLen_allMode {st : Files × List Step} {paired : Bool} {mode : PairMode} (l : Option (Option Int × Option Int))
    (mk : Int → Pred) {out outP : Option String} (h : AllMode mode st.2) : AllMode mode (addLen paired mode l mk out outP st).2 := by
  cases l with
  | none => exact h
  | some l => exact h.append (fun p1 p2 m w hm => by cases List.mem_singleton.1 hm; rfl)

theorem optSteps_allMode (x : Option α) {cond paired : Bool} {mode : PairMode} {mk : α → Pred} :
    AllMode mode (optSteps x cond (fun c => bothStep paired mode (mk c))) := by
  cases x with
  | none => exact allMode_nil _
  | some c =>
    cases cond
    · exact allMode_nil _
    · exact allMode_bothStep _ _ _

theorem front_simple_allMode (o : Opts) : AllMode (o.pairFilter.getD .any) ((front o).2 ++ simpleSteps o) := by
  have t0 : AllMode (o.pairFilter.getD .any) (({}, []) : Files × List Step).2 := allMode_nil _
  have t1 := addText_allMode o.restFile (mk := .restWriter) (fun _ _ _ _ _ h => nomatch h) t0
  have t2 := addText_allMode o.infoFile (mk := .infoWriter) (fun _ _ _ _ _ h => nomatch h) t1
  have t3 := addText_allMode o.wildcardFile (mk := .wildcardWriter) (fun _ _ _ _ _ h => nomatch h) t2
  have t4 := addLen_allMode o.minLen .tooShort (paired := o.paired) (out := o.tooShortOut) (outP := o.tooShortPaired) t3
  have t5 : AllMode _ (front o).2 := addLen_allMode o.maxLen .tooLong t4
  have s1 := optSteps_allMode o.maxN (cond := true) (paired := o.paired) (mode := o.pairFilter.getD .any) (mk := .tooManyN)
  have s2 := s1.append (optSteps_allMode o.maxEE (cond := o.inputHasQualities) (paired := o.paired) (mk := .maxEE))
  have s3 := s2.append (optSteps_allMode o.maxAER (cond := o.inputHasQualities) (paired := o.paired) (mk := .maxAER))
  have s4 : AllMode _ (simpleSteps o) :=
    s3.append (optSteps_allMode (some ()) (cond := o.discardCasava) (paired := o.paired) (mk := fun _ => .casava))
  exact t5.append s4

theorem untrimmed_built {B : Prop} {pre : List Step} {f : Files} (o : Opts) (names names2 : List String) (mode : PairMode)
    (h : Built B pre 6 sixIds f.writers.length) :
    Built B (pre ++ (untrimmedFilter o names names2 mode f).2) 7 allIds (untrimmedFilter o names names2 mode f).1.writers.length ∧
    f.writers.length ≤ (untrimmedFilter o names names2 mode f).1.writers.length := by
  have hdt : (sixIds ++ ["discard_trimmed"]).Sublist allIds := (List.Sublist.refl _).append ((List.nil_sublist _).cons_cons _)
  have hdu : (sixIds ++ ["discard_untrimmed"]).Sublist allIds := (List.Sublist.refl _).append ((List.Sublist.refl _).cons _)
  rcases untrimmedFilter_cases o names names2 mode f with ⟨-, -, e⟩ | ⟨-, e⟩ | ⟨-, w, e, hle, hw⟩
  · rw [e, List.append_nil]
    exact ⟨(h.mono (Nat.le_succ 6) (Nat.le_refl _)).ids_mono (List.sublist_append_left _ _), Nat.le_refl _⟩
  · rw [e]
    exact ⟨(optSteps_built h (some ()) true o.paired mode (fun _ => .isTrimmed) 7 "discard_trimmed" (fun _ => ⟨rfl, rfl⟩)
      (Nat.lt_succ_self 6)).ids_mono hdt, Nat.le_refl _⟩
  · rw [e]
    exact ⟨(h.snoc_opt _ 7 "discard_untrimmed" (.inr ⟨_, rfl, rfl, fun _ => rfl, .inl rfl, fun x hx => hw x (by simpa [Step.writers] using hx)⟩)
      (Nat.lt_succ_self 6) hle).ids_mono hdu, hle⟩

/-- The step list that `makeSteps` assembles: the text-file writers and length filters, the filters without output file, the
    trimmed/untrimmed filter `u` if there is one, and one closing step `last`, whose writers are opened after the `n` others. -/
structure Shape (o : Opts) (names names2 : List String) (steps u : List Step) (last : Step) (n : Nat) : Prop where
  steps_eq : steps = (front o).2 ++ simpleSteps o ++ u ++ [last]
  untrimmed : u = [] ∨ u = (untrimmedFilter o names names2 (o.pairFilter.getD .any) (front o).1).2
  built : Built (LenBounds o) ((front o).2 ++ simpleSteps o ++ u) 7 allIds n
  final : last.isFinal = true
  rank : stepRank last = 8
  fresh : ∀ w ∈ last.writers, n ≤ w
  idents : (steps.filterMap Step.filterIdent).Sublist allIds

theorem makeSteps_shape {o : Opts} {names names2 : List String} {steps : List Step} {f : Files}
    (h : makeSteps o names names2 = .ok (steps, f)) :
    ∃ u last n, Shape o names names2 steps u last n := by
  obtain ⟨dm, -, -, -, heq⟩ := makeSteps_ok h
  have hs : Built (LenBounds o) _ 6 sixIds _ := simple_built o id
  have hlast : (∃ last : Step, steps = (front o).2 ++ simpleSteps o ++ [last] ∧ last.isFinal = true ∧ stepRank last = 8 ∧
        last.filterIdent = some "discard_untrimmed" ∧ ∀ w ∈ last.writers, (front o).1.writers.length ≤ w) ∨
      steps = (front o).2 ++ simpleSteps o ++ (untrimmedFilter o names names2 (o.pairFilter.getD .any) (front o).1).2 ++
        [.sink (untrimmedFilter o names names2 (o.pairFilter.getD .any) (front o).1).1.writers.length] := by
    by_cases h1 : dm = 1
    · subst h1
      rw [finalD_one] at heq
      split at heq <;> cases heq
      · exact .inl ⟨_, rfl, rfl, rfl, rfl, fun w hw => openMany_idx (by simpa [Step.writers] using hw)⟩
      · refine .inl ⟨_, rfl, rfl, rfl, rfl, fun w hw => ?_⟩
        simp only [Step.writers, List.mem_append, Option.toList_some, List.mem_singleton] at hw
        rcases hw with hw | rfl
        · exact openMany_idx hw
        · simp [openMany]
    · by_cases h2 : dm = 2
      · subst h2
        cases heq
        exact .inl ⟨_, rfl, rfl, rfl, rfl, fun w hw => openMany_idx hw⟩
      · rw [finalD_plain _ _ _ _ h1 h2] at heq
        cases heq
        exact .inr rfl
  rcases hlast with ⟨last, rfl, hf, hr, hid, hw⟩ | rfl
  · refine ⟨[], last, _, ⟨by rw [List.append_nil], .inl rfl, ?_, hf, hr, hw, ?_⟩⟩
    · rw [List.append_nil]
      exact (hs.mono (Nat.le_succ 6) (Nat.le_refl _)).ids_mono (List.sublist_append_left _ _)
    · rw [List.filterMap_append]
      exact (hs.idents.append (by simp [hid])).trans ((List.Sublist.refl _).append ((List.Sublist.refl _).cons _))
  · obtain ⟨hu, hle⟩ := untrimmed_built o names names2 (o.pairFilter.getD .any) hs
    refine ⟨_, _, _, ⟨rfl, .inr rfl, hu, rfl, rfl, fun w hw => Nat.le_of_eq (List.mem_singleton.1 hw).symm, ?_⟩⟩
    rw [List.filterMap_append, show List.filterMap Step.filterIdent [Step.sink _] = [] from rfl, List.append_nil]
    exact hu.idents

theorem makeSingle_steps {o : Opts} {ads : List Matchable} {p : SinglePipeline} {f : Files}
    (h : makeSingle o ads = .ok (p, f)) : makeSteps o (namesOf ads) [] = .ok (p.steps, f) ∧ p.ads = ads := by
  unfold makeSingle at h
  split at h
  · cases h
  · obtain ⟨⟨steps, f'⟩, h1, h⟩ := bind_ok h
    obtain ⟨mods, -, h⟩ := bind_ok h
    cases h
    exact ⟨h1, rfl⟩

theorem makePaired_steps {o : Opts} {ads1 ads2 : List Matchable} {p : PairedPipeline} {f : Files}
    (h : makePaired o ads1 ads2 = .ok (p, f)) :
    makeSteps o (namesOf ads1) (namesOf ads2) = .ok (p.steps, f) ∧ p.ads1 = ads1 ∧ p.ads2 = ads2 := by
  unfold makePaired at h
  obtain ⟨_, -, h⟩ := bind_ok h
  obtain ⟨⟨steps, f'⟩, h1, h⟩ := bind_ok h
  obtain ⟨mods, -, h⟩ := bind_ok h
  cases h
  exact ⟨h1, rfl, rfl⟩
end Cutadapt.Steps
