import Cutadapt.Proofs.RunnerInv
/-! The ways in which `step` fires (`Step`), and preservation of `RunInv` / `SafeInv` by each of them. -/
namespace Cutadapt.Runner
variable {Chunk Stats Fault : Type} {cfg : Config Chunk Stats Fault} {s s' : State Stats}

/-- `Step cfg s a s'`: action `a` takes `s` to `s'`, one constructor per event of `runners.py`.
    `needWork`: a worker puts its id on `need_work_queue`.  `sendChunk` / `sendPill`: `ReaderProcess.send_to_worker` / `shutdown` serve
    the worker at the head of the queue.  `readerRaises`: the reader's `except` sends `-2` to every worker.
    `recvChunk` / `recvPill` / `recvReaderError`: the worker's `recv` returns a chunk index, `-1`, `-2`.
    `processed` / `workerRaises`: `process_reads` returns (result sent, back to asking for work) or raises (`-2` sent to the main process).
    `mainResult` / `mainDone` / `mainError`: `_try_receive` gets a chunk's output, a worker's final statistics, an error.
    `mainReturns`: the `while connections` loop has ended.  The guard `s.outcome = .running` common to all is kept apart (`Step.of_eq`). -/
inductive Step (cfg : Config Chunk Stats Fault) (s : State Stats) : Action → State Stats → Prop
  | needWork {w} (hw : w < cfg.nWorkers) (hph : (s.workers w).phase = .idle) :
      Step cfg s (.workerRequest w) { s.setW w { s.workers w with phase := .requested } with queue := s.queue ++ [w] }
  | sendChunk {w q} (hrf : s.rfailed = false) (hlt : s.next < cfg.chunks.length) (hq : s.queue = w :: q) :
      Step cfg s .readerSend
        { s.setW w { s.workers w with inbox := (s.workers w).inbox ++ [.chunk s.next] } with queue := q, next := s.next + 1 }
  | sendPill {w q} (hrf : s.rfailed = false) (hnf : cfg.readerFault = false) (hnext : s.next = cfg.chunks.length)
      (hpl : s.pills < cfg.nWorkers) (hq : s.queue = w :: q) :
      Step cfg s .readerPill
        { s.setW w { s.workers w with inbox := (s.workers w).inbox ++ [.pill] } with queue := q, pills := s.pills + 1 }
  | readerRaises (hrf : s.rfailed = false) (hfl : cfg.readerFault = true) (hnext : s.next = cfg.chunks.length) :
      Step cfg s .readerFault
        { s with rfailed := true,
                 workers := fun v => if v < cfg.nWorkers then { s.workers v with inbox := (s.workers v).inbox ++ [.readerError] } else s.workers v }
  | recvChunk {w i rest} (hw : w < cfg.nWorkers) (hph : (s.workers w).phase = .requested) (hin : (s.workers w).inbox = .chunk i :: rest) :
      Step cfg s (.workerStep w) (s.setW w { s.workers w with inbox := rest, phase := .processing i })
  | recvPill {w rest} (hw : w < cfg.nWorkers) (hph : (s.workers w).phase = .requested) (hin : (s.workers w).inbox = .pill :: rest) :
      Step cfg s (.workerStep w)
        (s.setW w { s.workers w with inbox := rest, phase := .finished, outbox := (s.workers w).outbox ++ [.done (s.workers w).stats] })
  | recvReaderError {w rest} (hw : w < cfg.nWorkers) (hph : (s.workers w).phase = .requested)
      (hin : (s.workers w).inbox = .readerError :: rest) :
      Step cfg s (.workerStep w)
        (s.setW w { s.workers w with inbox := rest, phase := .failed, outbox := (s.workers w).outbox ++ [.workerError] })
  | processed {w i c d st} (hw : w < cfg.nWorkers) (hph : (s.workers w).phase = .processing i) (hc : cfg.chunks[i]? = some c)
      (hp : cfg.process c = .ok (d, st)) :
      Step cfg s (.workerStep w)
        (s.setW w { s.workers w with phase := .idle, stats := cfg.add (s.workers w).stats st, outbox := (s.workers w).outbox ++ [.result i d] })
  | workerRaises {w i c e} (hw : w < cfg.nWorkers) (hph : (s.workers w).phase = .processing i) (hc : cfg.chunks[i]? = some c)
      (hp : cfg.process c = .error e) :
      Step cfg s (.workerStep w)
        (s.setW w { s.workers w with phase := .failed, outbox := (s.workers w).outbox ++ [.workerError], lost := some i })
  | mainResult {w i d rest} (hw : w < cfg.nWorkers) (hop : s.isOpen w = true) (hout : (s.workers w).outbox = .result i d :: rest) :
      Step cfg s (.mainRecv w)
        { s.setW w { s.workers w with outbox := rest } with
          writers := fun f => (s.writers f).write (d.getD f []) i, received := i :: s.received }
  | mainDone {w st rest} (hw : w < cfg.nWorkers) (hop : s.isOpen w = true) (hout : (s.workers w).outbox = .done st :: rest) :
      Step cfg s (.mainRecv w)
        { s.setW w { s.workers w with outbox := rest } with
          mstats := cfg.add s.mstats st, isOpen := fun v => if v = w then false else s.isOpen v }
  | mainError {w rest} (hw : w < cfg.nWorkers) (hop : s.isOpen w = true) (hout : (s.workers w).outbox = .workerError :: rest) :
      Step cfg s (.mainRecv w) { s.setW w { s.workers w with outbox := rest } with outcome := .failed }
  | mainReturns (hd : allDone cfg s = true) : Step cfg s .mainFinish { s with outcome := .ok }

theorem Step.eq_some {a : Action} (hrun : s.outcome = .running) (h : Step cfg s a s') : step cfg s a = some s' := by
  cases h <;> simp only [step, *, and_self, if_true]

theorem of_ite_eq_some {α : Type} {c : Prop} [Decidable c] {a : Option α} {x : α} (h : (if c then a else none) = some x) :
    c ∧ a = some x := by
  split at h
  · exact ⟨‹c›, h⟩
  · cases h

theorem Step.of_eq {a : Action} (hs : step cfg s a = some s') : s.outcome = .running ∧ Step cfg s a s' := by
  cases a <;> dsimp only [step] at hs <;> obtain ⟨hg, hs⟩ := of_ite_eq_some hs
  case workerRequest =>
    obtain ⟨hrun, hw, hph⟩ := hg
    cases hs
    exact ⟨hrun, .needWork hw hph⟩
  case readerSend =>
    obtain ⟨hrun, hrf, hlt⟩ := hg
    split at hs
    · cases hs
    · rename_i hq
      cases hs
      exact ⟨hrun, .sendChunk hrf hlt hq⟩
  case readerPill =>
    obtain ⟨hrun, hrf, hnf, hnext, hpl⟩ := hg
    split at hs
    · cases hs
    · rename_i hq
      cases hs
      exact ⟨hrun, .sendPill hrf hnf hnext hpl hq⟩
  case readerFault =>
    obtain ⟨hrun, hrf, hfl, hnext⟩ := hg
    cases hs
    exact ⟨hrun, .readerRaises hrf hfl hnext⟩
  case workerStep =>
    obtain ⟨hrun, hw⟩ := hg
    refine ⟨hrun, ?_⟩
    split at hs
    · rename_i hph
      split at hs
      · cases hs
      · rename_i hin; cases hs; exact .recvChunk hw hph hin
      · rename_i hin; cases hs; exact .recvPill hw hph hin
      · rename_i hin; cases hs; exact .recvReaderError hw hph hin
    · rename_i hph
      split at hs
      · cases hs
      · rename_i hc
        split at hs
        · rename_i hp; cases hs; exact .processed hw hph hc hp
        · rename_i hp; cases hs; exact .workerRaises hw hph hc hp
    · cases hs
  case mainRecv =>
    obtain ⟨hrun, hw, hop⟩ := hg
    refine ⟨hrun, ?_⟩
    split at hs
    · cases hs
    · rename_i ho; cases hs; exact .mainResult hw hop ho
    · rename_i ho; cases hs; exact .mainDone hw hop ho
    · rename_i ho; cases hs; exact .mainError hw hop ho
  case mainFinish =>
    obtain ⟨hrun, hd⟩ := hg
    cases hs
    exact ⟨hrun, .mainReturns hd⟩

theorem Step.rfailed_mono {a : Action} (h : Step cfg s a s') (hr : s.rfailed = true) : s'.rfailed = true := by
  cases h <;> first | exact hr | rfl

/-- only two events end the run: the main process leaves its loop, or receives an error -/
theorem Step.outcome {a : Action} (h : Step cfg s a s') :
    s'.outcome = s.outcome ∨ (allDone cfg s = true ∧ s' = { s with outcome := .ok }) ∨
    ∃ w rest, w < cfg.nWorkers ∧ s.isOpen w = true ∧ (s.workers w).outbox = .workerError :: rest ∧
      s' = { s.setW w { s.workers w with outbox := rest } with outcome := .failed } := by
  cases h with
  | mainReturns hd => exact Or.inr (Or.inl ⟨hd, rfl⟩)
  | mainError hw hop hout => exact Or.inr (Or.inr ⟨_, _, hw, hop, hout, rfl⟩)
  | _ => exact Or.inl rfl

theorem setW_failed {w v : Nat} {W' : Worker Stats} (hW : (s.workers w).phase = .failed → W'.phase = .failed)
    (h : (s.workers v).phase = .failed) : ((s.setW w W').workers v).phase = .failed := by
  by_cases hv : v = w
  · subst hv; rw [setW_workers_same]; exact hW h
  · rw [setW_workers_ne _ _ hv]; exact h

/-- nothing leads out of `failed`: an event that changes a worker's phase requires it to be in another one -/
theorem Step.failed_mono {a : Action} {v : Nat} (h : Step cfg s a s') (hf : (s.workers v).phase = .failed) :
    (s'.workers v).phase = .failed := by
  cases h with
  | mainReturns => exact hf
  | readerRaises =>
    show (if v < cfg.nWorkers then _ else _ : Worker Stats).phase = _
    split <;> exact hf
  | needWork _ hph | recvChunk _ hph | recvPill _ hph | recvReaderError _ hph | processed _ hph | workerRaises _ hph =>
    exact setW_failed (fun e => nomatch hph.symm.trans e) hf
  | sendChunk | sendPill | mainResult | mainDone | mainError => exact setW_failed id hf

/-- A step that puts `W'` in the place of worker `w` and may change the global fields.  `honce` and `hpillsum` are the balance of
    `RunInv.once` and `RunInv.pillsum` at that worker against `received`, `next` and `pills`; `hqueue`, `hrerr`, `houtbox`, `hresults`,
    `hlost` are the per-worker fields for `W'`.  The other workers keep theirs since `hcount` and `hisOpen` leave what they read alone. -/
theorem runInv_general {w : Nat} {W' : Worker Stats} (h : RunInv cfg s) (hw : w < cfg.nWorkers)
    (hworkers : ∀ v, s'.workers v = if v = w then W' else s.workers v)
    (hnext_le : s'.next ≤ cfg.chunks.length)
    (hpills_pos : 0 < s'.pills → s'.next = cfg.chunks.length ∧ cfg.readerFault = false)
    (hrfailed : s'.rfailed = s.rfailed) (hnext : s.rfailed = true → s'.next = s.next)
    (hqueue_lt : ∀ v, v ∈ s'.queue → v < cfg.nWorkers)
    (hcount : ∀ v, v ≠ w → s'.queue.count v = s.queue.count v)
    (hisOpen : ∀ v, v ≠ w → s'.isOpen v = s.isOpen v)
    (honce : ∀ i, cntWk i W' + s'.received.count i + (if i < s.next then 1 else 0) =
                  cntWk i (s.workers w) + s.received.count i + (if i < s'.next then 1 else 0))
    (hqueue : QOk W'.phase (s'.queue.count w + nonErr W'.inbox))
    (hpillsum : pillWk W' + s.pills = pillWk (s.workers w) + s'.pills)
    (hrerr : s.rfailed = true → W'.phase = .failed ∨ InMsg.readerError ∈ W'.inbox)
    (houtbox : OutboxOk W' (s'.isOpen w))
    (hresults : ∀ i d, OutMsg.result i d ∈ W'.outbox → ∃ st, outOf cfg i = some (d, st))
    (hlost : W'.phase ≠ .failed → W'.lost = none) :
    RunInv cfg s' := by
  have hsame : s'.workers w = W' := (hworkers w).trans (if_pos rfl)
  have hne : ∀ v, v ≠ w → s'.workers v = s.workers v := fun v hv => (hworkers v).trans (if_neg hv)
  refine {
    next_le := hnext_le
    pills_pos := hpills_pos
    rfailed := ?_
    once := ?_
    queue := ?_
    queue_lt := hqueue_lt
    pillsum := ?_
    rerr := ?_
    outbox := ?_
    results := ?_
    lost := ?_ }
  · intro hr
    rw [hrfailed] at hr
    have := h.rfailed hr
    rw [hnext hr]; exact this
  · intro i
    have hsum := sumW_update (f := fun v => cntWk i (s.workers v)) (g := fun v => cntWk i (s'.workers v)) hw
      (fun v hv => congrArg _ (hne v hv))
    rw [hsame] at hsum
    have h1 := h.once i
    have h2 := honce i
    omega
  · intro v hv
    by_cases hvw : v = w
    · subst hvw; rw [hsame]; exact hqueue
    · rw [hne v hvw, hcount v hvw]; exact h.queue v hv
  · have hsum := sumW_update (f := fun v => pillWk (s.workers v)) (g := fun v => pillWk (s'.workers v)) hw
      (fun v hv => congrArg _ (hne v hv))
    rw [hsame] at hsum
    have h1 := h.pillsum
    omega
  · intro hr v hv
    rw [hrfailed] at hr
    by_cases hvw : v = w
    · subst hvw; rw [hsame]; exact hrerr hr
    · rw [hne v hvw]; exact h.rerr hr v hv
  · intro v hv
    by_cases hvw : v = w
    · subst hvw; rw [hsame]; exact houtbox
    · rw [hne v hvw, hisOpen v hvw]; exact h.outbox v hv
  · intro v hv
    by_cases hvw : v = w
    · subst hvw; rw [hsame]; exact hresults
    · rw [hne v hvw]; exact h.results v hv
  · intro v hv
    by_cases hvw : v = w
    · subst hvw; rw [hsame]; exact hlost
    · rw [hne v hvw]; exact h.lost v hv

/-- a worker's own step: nothing global changes, the worker keeps its chunks and pills and appends `new` to its outbox -/
theorem runInv_setW {w : Nat} {W' : Worker Stats} {new : List (OutMsg Stats)} (h : RunInv cfg s) (hw : w < cfg.nWorkers)
    (honce : ∀ i, cntWk i W' = cntWk i (s.workers w))
    (hqueue : QOk W'.phase (s.queue.count w + nonErr W'.inbox))
    (hpillsum : pillWk W' = pillWk (s.workers w))
    (hrerr : s.rfailed = true → W'.phase = .failed ∨ InMsg.readerError ∈ W'.inbox)
    (houtbox : OutboxOk W' (s.isOpen w))
    (hout : W'.outbox = (s.workers w).outbox ++ new)
    (hresults : ∀ i d, OutMsg.result i d ∈ new → ∃ st, outOf cfg i = some (d, st))
    (hlost : W'.phase ≠ .failed → W'.lost = none) :
    RunInv cfg (s.setW w W') := by
  refine runInv_general h hw (hworkers := fun _ => rfl) (hnext_le := h.next_le) (hpills_pos := h.pills_pos) (hrfailed := rfl)
    (hnext := fun _ => rfl) (hqueue_lt := h.queue_lt) (hcount := fun _ _ => rfl) (hisOpen := fun _ _ => rfl)
    (honce := fun i => congrArg (· + _ + _) (honce i)) (hqueue := hqueue) (hpillsum := congrArg (· + _) hpillsum)
    (hrerr := hrerr) (houtbox := houtbox) (hresults := fun i d hm => ?_) (hlost := hlost)
  rw [hout] at hm
  exact (List.mem_append.mp hm).elim (h.results w hw i d) (hresults i d)

theorem RunInv.of_cnt_pos (h : RunInv cfg s) {w i : Nat} (hw : w < cfg.nWorkers) (hc : 0 < cntWk i (s.workers w)) :
    i < s.next ∧ i ∉ s.received := by
  have h1 := h.once i
  have h2 := Nat.lt_of_lt_of_le hc (le_sumW (f := fun v => cntWk i (s.workers v)) hw)
  split at h1
  · rename_i hi
    refine ⟨hi, fun hm => ?_⟩
    have := List.count_pos_iff.mpr hm
    omega
  · omega

theorem runInv_workerRequest {w : Nat} (h : RunInv cfg s) (hs : Step cfg s (.workerRequest w) s') : RunInv cfg s' := by
  cases hs with | needWork hw hph =>
  have hq := h.queue w hw
  have hnf : (s.workers w).phase ≠ .failed := hph ▸ nofun
  refine runInv_general h hw (hworkers := fun _ => rfl) (hnext_le := h.next_le) (hpills_pos := h.pills_pos) (hrfailed := rfl)
    (hnext := fun _ => rfl) (hqueue_lt := ?_) (hcount := ?_) (hisOpen := fun _ _ => rfl) (honce := ?_) (hqueue := ?_) (hpillsum := ?_)
    (hrerr := fun hr => Or.inr ((h.rerr hr w hw).resolve_left hnf)) (houtbox := ?_) (hresults := h.results w hw)
    (hlost := fun _ => h.lost w hw hnf)
  · intro v hv
    rcases List.mem_append.mp hv with hv | hv
    · exact h.queue_lt v hv
    · rw [List.mem_singleton.mp hv]; exact hw
  · intro v hv
    show (s.queue ++ [w]).count v = _
    rw [List.count_append, List.count_cons_of_ne (Ne.symm hv)]; rfl
  · intro i
    simp only [cntWk, cntProc, hph]
    rfl
  · rw [hph] at hq
    show (s.queue ++ [w]).count w + nonErr (s.workers w).inbox = 1
    rw [List.count_append, List.count_cons_self, List.count_nil, Nat.add_right_comm, (hq : _ = 0)]
  · simp only [pillWk, hph, reduceCtorEq, if_false, setW_pills]
  · have ho := h.outbox w hw
    simp only [OutboxOk, hph] at ho
    exact ho

/-- the reader hands `m` (a chunk or a pill) to the worker at the head of the queue -/
theorem runInv_give {w nx pl : Nat} {q : List Nat} {m : InMsg} (h : RunInv cfg s) (hq : s.queue = w :: q) (hrf : s.rfailed = false)
    (hm : nonErr [m] = 1) (hnext : nx ≤ cfg.chunks.length) (hpp : 0 < pl → nx = cfg.chunks.length ∧ cfg.readerFault = false)
    (ha : ∀ i, [m].count (.chunk i) + (if i < s.next then 1 else 0) = if i < nx then 1 else 0)
    (hc : [m].count .pill + s.pills = pl) :
    RunInv cfg { s.setW w { s.workers w with inbox := (s.workers w).inbox ++ [m] } with queue := q, next := nx, pills := pl } := by
  have hw : w < cfg.nWorkers := h.queue_lt w (by rw [hq]; exact List.mem_cons_self)
  have hno : ∀ hr : s.rfailed = true, False := fun hr => by rw [hrf] at hr; cases hr
  refine runInv_general h hw (hworkers := fun _ => rfl) (hnext_le := hnext) (hpills_pos := hpp) (hrfailed := rfl)
    (hnext := fun hr => (hno hr).elim) (hqueue_lt := ?_) (hcount := ?_) (hisOpen := fun _ _ => rfl) (honce := ?_) (hqueue := ?_)
    (hpillsum := ?_) (hrerr := fun hr => (hno hr).elim) (houtbox := h.outbox w hw) (hresults := h.results w hw) (hlost := h.lost w hw)
  · intro v hv
    exact h.queue_lt v (by rw [hq]; exact List.mem_cons_of_mem _ hv)
  · intro v hv
    show q.count v = s.queue.count v
    rw [hq, List.count_cons_of_ne (Ne.symm hv)]
  · intro i
    have := ha i
    simp only [cntWk, List.count_append, setW_received]
    omega
  · have hqw := h.queue w hw
    have e : q.count w + nonErr ((s.workers w).inbox ++ [m]) = s.queue.count w + nonErr (s.workers w).inbox := by
      rw [nonErr_append, hm, hq, List.count_cons_self, Nat.add_right_comm, Nat.add_assoc]
    show QOk (s.workers w).phase _
    rw [e]; exact hqw
  · simp only [pillWk, List.count_append]
    omega

/-- the reader's error is appended to every worker's inbox; no quantity of the invariant counts it -/
theorem runInv_readerRaises (h : RunInv cfg s) (hfl : cfg.readerFault = true) (hnext : s.next = cfg.chunks.length) :
    RunInv cfg { s with rfailed := true, workers := fun v =>
      if v < cfg.nWorkers then { s.workers v with inbox := (s.workers v).inbox ++ [.readerError] } else s.workers v } := by
  refine {
    next_le := h.next_le
    pills_pos := h.pills_pos
    rfailed := fun _ => ⟨hfl, hnext⟩
    once := fun i => ?_
    queue := fun v hv => ?_
    queue_lt := h.queue_lt
    pillsum := ?_
    rerr := fun _ v hv => ?_
    outbox := fun v hv => ?_
    results := fun v hv => ?_
    lost := fun v hv => ?_ }
  · refine Eq.trans (congrArg (· + _) (sumW_congr fun v hv => ?_)) (h.once i)
    simp only [if_pos hv, cntWk, List.count_append, List.count_cons, List.count_nil, reduceCtorEq, beq_iff_eq, if_false, Nat.add_zero]
  · simp only [if_pos hv, nonErr_append]
    exact h.queue v hv
  · refine h.pillsum.trans (sumW_congr fun v hv => ?_).symm
    simp only [if_pos hv, pillWk, List.count_append, List.count_cons, List.count_nil, reduceCtorEq, beq_iff_eq, if_false, Nat.add_zero]
  · simp only [if_pos hv]
    exact Or.inr (List.mem_append_right _ List.mem_cons_self)
  · simp only [if_pos hv]; exact h.outbox v hv
  · simp only [if_pos hv]; exact h.results v hv
  · simp only [if_pos hv]; exact h.lost v hv

theorem runInv_workerStep {w : Nat} (h : RunInv cfg s) (hs : Step cfg s (.workerStep w) s') : RunInv cfg s' := by
  cases hs with
  | recvChunk hw hph hin =>
    rename_i i rest
    have hq := h.queue w hw
    have ho := h.outbox w hw
    have hnf : (s.workers w).phase ≠ .failed := hph ▸ nofun
    refine runInv_setW (new := []) h hw (honce := ?_) (hqueue := ?_) (hpillsum := ?_) (hrerr := ?_) (houtbox := ?_)
      (hout := (List.append_nil _).symm) (hresults := fun _ _ hm => nomatch hm) (hlost := fun _ => h.lost w hw hnf)
    · intro j
      simp only [cntWk, hin, hph, count_chunk_cons, cntProc, Nat.add_zero]
    · simp only [hph, hin, nonErr, QOk] at hq
      exact Nat.succ.inj hq
    · simp only [pillWk, hin, hph, List.count_cons, reduceCtorEq, beq_iff_eq, if_false, Nat.add_zero]
    · intro hrf
      have hm := (h.rerr hrf w hw).resolve_left hnf
      rw [hin] at hm
      exact Or.inr ((List.mem_cons.mp hm).resolve_left nofun)
    · simp only [OutboxOk, hph] at ho
      exact ho
  | recvPill hw hph hin =>
    rename_i rest
    have hq := h.queue w hw
    have ho := h.outbox w hw
    refine runInv_setW h hw (honce := ?_) (hqueue := ?_) (hpillsum := ?_) (hrerr := ?_) (houtbox := ?_) (hout := rfl)
      (hresults := fun _ _ hm => nomatch List.mem_singleton.mp hm) (hlost := fun _ => h.lost w hw (hph ▸ nofun))
    · intro j
      simp only [cntWk, hin, hph, cntProc, cntRes_append, cntRes, List.count_cons, reduceCtorEq, beq_iff_eq, if_false, Nat.add_zero]
    · simp only [hph, hin, nonErr, QOk] at hq
      exact Nat.succ.inj hq
    · simp only [pillWk, hin, hph, List.count_cons_self, reduceCtorEq, if_false, if_true]
    · intro hrf
      -- a pill is on its way only if the reader has finished without fault
      have hp : 0 < pillWk (s.workers w) := by
        simp only [pillWk, hin, List.count_cons_self]
        exact Nat.lt_of_lt_of_le (Nat.succ_pos _) (Nat.le_add_right _ _)
      have hp : 0 < s.pills := h.pillsum ▸ Nat.lt_of_lt_of_le hp (le_sumW (f := fun v => pillWk (s.workers v)) hw)
      exact nomatch (h.rfailed hrf).1.symm.trans (h.pills_pos hp).2
    · simp only [OutboxOk, hph] at ho
      exact ⟨fun _ => ⟨_, rfl, ho.2⟩, fun hcl => nomatch ho.1.symm.trans hcl⟩
  | recvReaderError hw hph hin =>
    rename_i rest
    have hq := h.queue w hw
    have ho := h.outbox w hw
    refine runInv_setW h hw (honce := ?_) (hqueue := ?_) (hpillsum := ?_) (hrerr := fun _ => Or.inl rfl) (houtbox := ?_) (hout := rfl)
      (hresults := fun _ _ hm => nomatch List.mem_singleton.mp hm) (hlost := fun hc => absurd rfl hc)
    · intro j
      simp only [cntWk, hin, hph, cntProc, cntRes_append, cntRes, List.count_cons, reduceCtorEq, beq_iff_eq, if_false, Nat.add_zero]
    · simp only [hph, hin, nonErr, QOk] at hq
      exact Nat.le_of_eq hq
    · simp only [pillWk, hin, hph, List.count_cons, reduceCtorEq, beq_iff_eq, if_false, Nat.add_zero]
    · simp only [OutboxOk, hph] at ho
      exact ⟨ho.1, _, rfl, ho.2⟩
  | processed hw hph hc hp =>
    rename_i i c d st
    have hq := h.queue w hw
    have ho := h.outbox w hw
    have hnf : (s.workers w).phase ≠ .failed := hph ▸ nofun
    refine runInv_setW h hw (honce := ?_) (hqueue := ?_) (hpillsum := ?_)
      (hrerr := fun hrf => Or.inr ((h.rerr hrf w hw).resolve_left hnf)) (houtbox := ?_) (hout := rfl) (hresults := ?_)
      (hlost := fun _ => h.lost w hw hnf)
    · intro j
      simp only [cntWk, hph, cntProc, cntRes_append, cntRes]
      omega
    · rw [hph] at hq
      exact hq
    · simp only [pillWk, hph, reduceCtorEq, if_false]
    · simp only [OutboxOk, hph] at ho
      exact ⟨ho.1, resultsOnly_append ho.2 (resultsOnly_single i d)⟩
    · intro j d' hm
      cases List.mem_singleton.mp hm
      exact ⟨st, by simp only [outOf, hc, hp]⟩
  | workerRaises hw hph hc hp =>
    rename_i i c e
    have hq := h.queue w hw
    have ho := h.outbox w hw
    have hl := h.lost w hw (hph ▸ nofun)
    refine runInv_setW h hw (honce := ?_) (hqueue := ?_) (hpillsum := ?_) (hrerr := fun _ => Or.inl rfl) (houtbox := ?_) (hout := rfl)
      (hresults := fun _ _ hm => nomatch List.mem_singleton.mp hm) (hlost := fun hc => absurd rfl hc)
    · intro j
      simp only [cntWk, hph, cntProc, cntRes_append, cntRes, hl, Option.some.injEq, reduceCtorEq, if_false]
      omega
    · simp only [hph, QOk] at hq
      exact Nat.le_trans (Nat.le_of_eq hq) (Nat.zero_le 1)
    · simp only [pillWk, hph, reduceCtorEq, if_false]
    · simp only [OutboxOk, hph] at ho
      exact ⟨ho.1, _, rfl, ho.2⟩

theorem runInv_mainRecv {w : Nat} (h : RunInv cfg s) (hs : Step cfg s (.mainRecv w) s') (hrun : s'.outcome = .running) :
    RunInv cfg s' := by
  cases hs with
  | mainResult hw hop hout =>
    rename_i i d rest
    refine runInv_general h hw (hworkers := fun _ => rfl) (hnext_le := h.next_le) (hpills_pos := h.pills_pos) (hrfailed := rfl)
      (hnext := fun _ => rfl) (hqueue_lt := h.queue_lt) (hcount := fun _ _ => rfl) (hisOpen := fun _ _ => rfl) (honce := ?_)
      (hqueue := h.queue w hw) (hpillsum := rfl) (hrerr := (h.rerr · w hw)) (houtbox := outboxOk_tail (h.outbox w hw) hout)
      (hresults := ?_) (hlost := h.lost w hw)
    · intro j
      show cntWk j _ + (i :: s.received).count j + _ = _ + _ + (if j < s.next then 1 else 0)
      simp only [cntWk, hout, cntRes, List.count_cons, beq_iff_eq]
      omega
    · intro j d' hm
      exact h.results w hw j d' (by rw [hout]; exact List.mem_cons_of_mem _ hm)
  | mainDone hw hop hout =>
    rename_i st rest
    obtain ⟨hph, hrest, hst⟩ := outboxOk_done (h.outbox w hw) hop hout
    refine runInv_general h hw (hworkers := fun _ => rfl) (hnext_le := h.next_le) (hpills_pos := h.pills_pos) (hrfailed := rfl)
      (hnext := fun _ => rfl) (hqueue_lt := h.queue_lt) (hcount := fun _ _ => rfl) (hisOpen := fun v hv => if_neg hv) (honce := ?_)
      (hqueue := h.queue w hw) (hpillsum := rfl) (hrerr := (h.rerr · w hw)) (houtbox := ?_) (hresults := ?_) (hlost := h.lost w hw)
    · intro j
      simp only [cntWk, hout, cntRes]
      rfl
    · show OutboxOk _ (if w = w then false else s.isOpen w)
      simp only [OutboxOk, hph, hrest, if_true, Bool.false_eq_true, false_imp_iff, imp_self, and_self]
    · intro j d' hm
      exact h.results w hw j d' (by rw [hout]; exact List.mem_cons_of_mem _ hm)
  | mainError => cases hrun

theorem safeInv_step {a : Action} (h : RunInv cfg s) (hsafe : SafeInv cfg s) (hs : Step cfg s a s') : SafeInv cfg s' := by
  cases hs with
  | mainResult hw hop hout =>
    rename_i w i d rest
    obtain ⟨st, hst⟩ := h.results w hw i d (by rw [hout]; exact List.mem_cons_self)
    have hnot : i ∉ s.received := (h.of_cnt_pos hw (by simp only [cntWk, hout, cntRes, if_true]; omega)).2
    refine ⟨fun f => ?_, fun j hj => ?_⟩
    · have hd : d.getD f [] = outData cfg i f := by simp only [outData, hst]
      show WInv _ ((s.writers f).write (d.getD f []) i) (fun j => j ∈ i :: s.received)
      rw [hd]
      exact (write_spec (hsafe.writers f) i hnot).congr (fun j => List.mem_cons.symm)
    · rcases List.mem_cons.mp hj with rfl | hj
      · rw [hst]; rfl
      · exact hsafe.recvOk j hj
  | _ => exact ⟨hsafe.writers, hsafe.recvOk⟩

theorem runInv_step {a : Action} (h : RunInv cfg s) (hs : Step cfg s a s') (hrun : s'.outcome = .running) : RunInv cfg s' := by
  cases a with
  | workerRequest w => exact runInv_workerRequest h hs
  | workerStep w => exact runInv_workerStep h hs
  | mainRecv w => exact runInv_mainRecv h hs hrun
  | mainFinish => cases hs; cases hrun
  | readerFault =>
    cases hs with | readerRaises hrf hfl hnext =>
    exact runInv_readerRaises h hfl hnext
  | readerPill =>
    cases hs with | sendPill hrf hnf hnext hpl hq =>
    exact runInv_give (nx := s.next) (pl := s.pills + 1) h hq hrf rfl h.next_le (fun _ => ⟨hnext, hnf⟩)
      (fun i => by rw [List.count_cons_of_ne (a := InMsg.chunk i) (b := InMsg.pill) nofun, List.count_nil, Nat.zero_add])
      (by rw [List.count_cons_self, List.count_nil, Nat.add_comm])
  | readerSend =>
    cases hs with | sendChunk hrf hlt hq =>
    refine runInv_give (nx := s.next + 1) (pl := s.pills) h hq hrf rfl hlt (fun hp => absurd (h.pills_pos hp).1 (Nat.ne_of_lt hlt))
      (fun i => ?_) (by rw [List.count_cons_of_ne (a := InMsg.pill) (b := InMsg.chunk s.next) nofun, List.count_nil, Nat.zero_add])
    by_cases hi : s.next = i
    · subst hi; simp
    · have : (i < s.next + 1) = (i < s.next) := by simp only [eq_iff_iff]; omega
      simp [hi, this]

end Cutadapt.Runner
