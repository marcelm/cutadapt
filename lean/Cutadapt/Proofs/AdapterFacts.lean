import Cutadapt.Adapters
/-! Elementary facts about two helpers of `Adapters` that the proofs about matching, the k-mer filter and the modifiers
    all need: ASCII upper-casing and the cost of an indel. Core Lean only. -/
namespace Cutadapt.Adapters

theorem upper_of_lower {c : UInt8} (h : 97 ≤ c ∧ c ≤ 122) : 65 ≤ c - 32 ∧ c - 32 ≤ 90 := by
  have h32 : (32 : UInt8) ≤ c := UInt8.le_trans (by decide) h.1
  simp only [UInt8.le_iff_toNat_le, UInt8.toNat_sub_of_le _ _ h32] at h ⊢
  simp at h ⊢
  omega

theorem asciiUpper_idem (c : UInt8) : asciiUpper (asciiUpper c) = asciiUpper c := by
  by_cases h : 97 ≤ c ∧ c ≤ 122
  · rw [show asciiUpper c = c - 32 from if_pos h]
    exact if_neg fun h2 => absurd (UInt8.le_trans h2.1 (upper_of_lower h).2) (by decide)
  · rw [show asciiUpper c = c from if_neg h]
    exact if_neg h

theorem indelCost_pos (a : Adapter) : 1 ≤ indelCost a := by
  unfold indelCost; split <;> decide

end Cutadapt.Adapters
