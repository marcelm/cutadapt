import Cutadapt.Index
/-! `_make_index` as a fold: what the dictionary holds for a key after any number of adapters. -/
namespace Cutadapt.Index
open Cutadapt Cutadapt.Adapters

theorem foldl_flatMap_ind {α ε σ : Type} (f : σ → α → σ) (g : α → List ε) (P : List ε → σ → Prop) (l : List α) :
    ∀ (evs : List ε) (st : σ), P evs st → (∀ x ∈ l, ∀ evs st, P evs st → P (evs ++ g x) (f st x)) →
      P (evs ++ l.flatMap g) (l.foldl f st) := by
  induction l with
  | nil => intro evs st h _; simpa using h
  | cons x l ih =>
    intro evs st h step
    rw [List.flatMap_cons, ← List.append_assoc]
    exact ih _ _ (step x List.mem_cons_self _ _ h) fun y hy => step y (List.mem_cons_of_mem _ hy)

theorem eq_of_countP_eq_one {α : Type} {p : α → Bool} {l : List α} (h : l.countP p = 1) {a b : α}
    (ha : a ∈ l) (hb : b ∈ l) (pa : p a = true) (pb : p b = true) : a = b := by
  obtain ⟨z, hz⟩ := List.length_eq_one_iff.mp (List.countP_eq_length_filter ▸ h)
  have ha' := List.mem_filter.mpr ⟨ha, pa⟩
  have hb' := List.mem_filter.mpr ⟨hb, pb⟩
  rw [hz, List.mem_singleton] at ha' hb'
  rw [ha', hb']

/-- one execution of the inner loop body: adapter `ai` offers `(key, e, m)` -/
structure Ev where
  ai : Nat
  key : Bytes
  e : Nat
  m : Nat
deriving Repr, DecidableEq

/-- what happens to *one* key when an event for that key is processed: the entry and the "marked ambiguous" flag.
    A tie with the current entry sets the mark, a strictly better offer clears it. -/
def keyStep (st : Option Entry × Bool) (ev : Ev) : Option Entry × Bool :=
  match st.1 with
  | none => (some (ev.ai, ev.e, ev.m), st.2)
  | some (_, _, om) =>
    if ev.m < om then st
    else if om == ev.m then (some (ev.ai, ev.e, ev.m), true)
    else (some (ev.ai, ev.e, ev.m), false)

/-- state of one key after the events `l` (all for that key), in order -/
def keyState (l : List Ev) : Option Entry × Bool := l.foldl keyStep (none, false)

def adapterEvents (aia : Adapter × Nat) : List Ev :=
  (adapterItems aia.1).map (fun it => ⟨aia.2, it.1, it.2.1, it.2.2⟩)

/-- all loop-body executions of `_make_index`, in order -/
def events (adapters : List Adapter) : List Ev := adapters.zipIdx.flatMap adapterEvents

def forKey (s : Bytes) (l : List Ev) : List Ev := l.filter (fun ev => ev.key == s)

theorem mem_forKey {s : Bytes} {l : List Ev} {ev : Ev} : ev ∈ forKey s l ↔ ev ∈ l ∧ ev.key = s := by
  simp [forKey]

theorem mem_events (adapters : List Adapter) (ev : Ev) :
    ev ∈ events adapters ↔ ∃ a, adapters[ev.ai]? = some a ∧ (ev.key, ev.e, ev.m) ∈ adapterItems a := by
  simp only [events, List.mem_flatMap, adapterEvents, List.mem_map]
  constructor
  · rintro ⟨⟨a, i⟩, hai, it, hit, rfl⟩
    exact ⟨a, List.mk_mem_zipIdx_iff_getElem?.mp hai, hit⟩
  · rintro ⟨a, hai, hit⟩
    exact ⟨(a, ev.ai), List.mk_mem_zipIdx_iff_getElem?.mpr hai, (ev.key, ev.e, ev.m), hit, rfl⟩

/-- induction over `_make_index`, for a relation between the events processed and the loop state -/
theorem buildAll_ind {D : Type} (ops : DictOps D) (adapters : List Adapter) (P : List Ev → Build D → Prop)
    (init : P [] ⟨ops.empty, [], ops.empty, []⟩)
    (step : ∀ a ai, adapters[ai]? = some a → ∀ evs st, P evs st →
      P (evs ++ adapterEvents (a, ai)) (addAdapter ops st (a, ai))) :
    P (events adapters) (buildAll ops adapters) := by
  have := foldl_flatMap_ind (addAdapter ops) adapterEvents P adapters.zipIdx [] _ init
    fun x hx => step x.1 x.2 (List.mem_zipIdx_iff_getElem?.mp hx)
  rwa [List.nil_append] at this

/-- … and over one adapter: `P` during its loops, `Q` after the `lengths.add(n)` that ends the Hamming branch -/
theorem addAdapter_ind {D : Type} (ops : DictOps D) (a : Adapter) (ai : Nat) (P Q : List Ev → Build D → Prop)
    (entry : ∀ it ∈ adapterItems a, ∀ evs st, P evs st →
      P (evs ++ [⟨ai, it.1, it.2.1, it.2.2⟩]) (addEntry ops ai a.indels st it))
    (evs : List Ev) (st : Build D)
    (fin : ∀ st', P (evs ++ adapterEvents (a, ai)) st' → Q (evs ++ adapterEvents (a, ai))
      (if a.indels then st' else { st' with lengths := setAdd st'.lengths a.seq.length }))
    (h : P evs st) : Q (evs ++ adapterEvents (a, ai)) (addAdapter ops st (a, ai)) := by
  have := foldl_flatMap_ind (addEntry ops ai a.indels) (fun it => [(⟨ai, it.1, it.2.1, it.2.2⟩ : Ev)]) P _ evs st h entry
  rw [← List.map_eq_flatMap] at this
  exact fin _ this

theorem keyState_nil : keyState [] = (none, false) := rfl

theorem keyState_append_one (l : List Ev) (ev : Ev) : keyState (l ++ [ev]) = keyStep (keyState l) ev := by
  simp [keyState, List.foldl_append]

theorem keyStep_lt {ev : Ev} {oa oe om : Nat} (b : Bool) (h : ev.m < om) :
    keyStep (some (oa, oe, om), b) ev = (some (oa, oe, om), b) := by
  simp only [keyStep, h, if_true]

theorem keyStep_tie (ev : Ev) (oa oe : Nat) (b : Bool) :
    keyStep (some (oa, oe, ev.m), b) ev = (some (ev.ai, ev.e, ev.m), true) := by
  simp only [keyStep, Nat.lt_irrefl, if_false, beq_self_eq_true, if_true]

theorem keyStep_gt {ev : Ev} {oa oe om : Nat} (b : Bool) (h : om < ev.m) :
    keyStep (some (oa, oe, om), b) ev = (some (ev.ai, ev.e, ev.m), false) := by
  have h1 : ¬ ev.m < om := by omega
  have h2 : (om == ev.m) = false := by simp; omega
  simp only [keyStep, h1, h2, if_false, Bool.false_eq_true]

/-- the assignment `index[s] = (adapter, errors, matches)`, with the `lengths.add(len(s))` of the indel branch -/
def put {D : Type} (ops : DictOps D) (ai : Nat) (addLen : Bool) (st : Build D) (s : Bytes) (e m : Nat) : Build D :=
  { st with index := ops.insert st.index s (ai, e, m),
            lengths := if addLen then setAdd st.lengths s.length else st.lengths }

section addEntry
variable {D : Type} {ops : DictOps D} {ai : Nat} {addLen : Bool} {st : Build D} {s : Bytes} {e m oa oe om : Nat}

theorem addEntry_none (h : ops.get? st.index s = none) :
    addEntry ops ai addLen st (s, e, m) = put ops ai addLen st s e m := by
  simp only [addEntry, h, put]

theorem addEntry_lt (h : ops.get? st.index s = some (oa, oe, om)) (hlt : m < om) :
    addEntry ops ai addLen st (s, e, m) = st := by
  simp only [addEntry, h, hlt, if_true]

theorem addEntry_tie (h : ops.get? st.index s = some (oa, oe, m)) :
    addEntry ops ai addLen st (s, e, m) = put ops ai addLen
      (if (ops.get? st.ambSet s).isNone then
        { st with ambSet := ops.insert st.ambSet s (ai, e, m), ambKeys := s :: st.ambKeys } else st) s e m := by
  simp only [addEntry, h, Nat.lt_irrefl, if_false, beq_self_eq_true, Bool.true_and, put]
  split <;> rfl

theorem addEntry_gt (h : ops.get? st.index s = some (oa, oe, om)) (hgt : om < m) :
    addEntry ops ai addLen st (s, e, m) = put ops ai addLen
      { st with ambSet := ops.erase st.ambSet s, ambKeys := st.ambKeys.filter (· != s) } s e m := by
  have h1 : ¬ m < om := by omega
  have h2 : (om == m) = false := by simp; omega
  simp only [addEntry, h, h1, h2, hgt, if_false, if_true, Bool.false_and, Bool.false_eq_true, put]

/-- `addEntry` either skips (`continue`: the key is present already) or assigns `index[key]` -/
theorem addEntry_cases (ops : DictOps D) (ai : Nat) (addLen : Bool) (e : Nat) (st : Build D) (key : Bytes) (m : Nat) :
    (addEntry ops ai addLen st (key, e, m) = st ∧ ops.get? st.index key ≠ none) ∨
    ((addEntry ops ai addLen st (key, e, m)).index = ops.insert st.index key (ai, e, m) ∧
     (addEntry ops ai addLen st (key, e, m)).lengths = (if addLen then setAdd st.lengths key.length else st.lengths)) := by
  cases h : ops.get? st.index key with
  | none => right; rw [addEntry_none h]; exact ⟨rfl, rfl⟩
  | some c =>
    obtain ⟨oa, oe, om⟩ := c
    rcases Nat.lt_trichotomy m om with hlt | rfl | hgt
    · left; exact ⟨addEntry_lt h hlt, by simp⟩
    · right; rw [addEntry_tie h]; split <;> exact ⟨rfl, rfl⟩
    · right; rw [addEntry_gt h hgt]; exact ⟨rfl, rfl⟩

theorem addEntry_frame (ops : DictOps D) (ai : Nat) (addLen : Bool) (e : Nat) (hl : ops.Lawful) (st : Build D) (key : Bytes)
    (m : Nat) {s : Bytes} (hk : key ≠ s) :
    ops.get? (addEntry ops ai addLen st (key, e, m)).index s = ops.get? st.index s ∧
    ops.get? (addEntry ops ai addLen st (key, e, m)).ambSet s = ops.get? st.ambSet s ∧
    (s ∈ (addEntry ops ai addLen st (key, e, m)).ambKeys ↔ s ∈ st.ambKeys) := by
  have hk' : ¬ s = key := fun h => hk h.symm
  cases h : ops.get? st.index key with
  | none => rw [addEntry_none h]; simp [put, hl.get?_insert, hk]
  | some c =>
    obtain ⟨oa, oe, om⟩ := c
    rcases Nat.lt_trichotomy m om with hlt | rfl | hgt
    · rw [addEntry_lt h hlt]; simp
    · rw [addEntry_tie h]; split <;> simp [put, hl.get?_insert, hk, hk']
    · rw [addEntry_gt h hgt]; simp [put, hl.get?_insert, hl.get?_erase, hk, hk']

end addEntry

def Inv {D : Type} (ops : DictOps D) (evs : List Ev) (st : Build D) : Prop :=
  ∀ s, ops.get? st.index s = (keyState (forKey s evs)).1 ∧
       (ops.get? st.ambSet s).isSome = (keyState (forKey s evs)).2 ∧
       (s ∈ st.ambKeys ↔ (keyState (forKey s evs)).2 = true)

theorem inv_addEntry {D : Type} (ops : DictOps D) (hl : ops.Lawful) (evs : List Ev) (st : Build D)
    (ai : Nat) (addLen : Bool) (it : Bytes × Nat × Nat) (h : Inv ops evs st) :
    Inv ops (evs ++ [⟨ai, it.1, it.2.1, it.2.2⟩]) (addEntry ops ai addLen st it) := by
  obtain ⟨key, e, m⟩ := it
  intro s
  obtain ⟨h1, h2, h3⟩ := h s
  by_cases hk : key = s
  · subst hk
    have hs : forKey key (evs ++ [⟨ai, key, e, m⟩]) = forKey key evs ++ [⟨ai, key, e, m⟩] := by simp [forKey]
    rw [hs, keyState_append_one]
    rcases hks : keyState (forKey key evs) with ⟨cur, amb⟩
    simp only [hks] at h1 h2 h3
    cases cur with
    | none =>
      rw [addEntry_none h1]
      exact ⟨by simp [put, keyStep, hl.get?_insert], h2, h3⟩
    | some c =>
      obtain ⟨oa, oe, om⟩ := c
      rcases Nat.lt_trichotomy m om with hlt | rfl | hgt
      · rw [addEntry_lt h1 hlt, keyStep_lt (ev := ⟨ai, key, e, m⟩) _ hlt]
        exact ⟨h1, h2, h3⟩
      · -- a tie sets the mark, unless it is set already
        rw [addEntry_tie h1, keyStep_tie ⟨ai, key, e, m⟩]
        cases hn : (ops.get? st.ambSet key).isNone
        · have : amb = true := by rw [← h2, ← Option.not_isNone, hn]; rfl
          simp [put, hl.get?_insert, h2, h3, this]
        · simp [put, hl.get?_insert]
      · rw [addEntry_gt h1 hgt, keyStep_gt (ev := ⟨ai, key, e, m⟩) _ hgt]
        simp [put, hl.get?_insert, hl.get?_erase]
  · have hs : forKey s (evs ++ [⟨ai, key, e, m⟩]) = forKey s evs := by simp [forKey, hk]
    obtain ⟨f1, f2, f3⟩ := addEntry_frame ops ai addLen e hl st key m hk
    rw [hs, f1, f2, f3]
    exact ⟨h1, h2, h3⟩

theorem get?_eraseAll {D : Type} (ops : DictOps D) (hl : ops.Lawful) (keys : List Bytes) :
    ∀ (d : D) (s : Bytes), ops.get? (keys.foldl ops.erase d) s = if s ∈ keys then none else ops.get? d s := by
  induction keys with
  | nil => intro d s; simp
  | cons k rest ih =>
    intro d s
    rw [List.foldl_cons, ih, hl.get?_erase]
    by_cases h1 : s ∈ rest <;> by_cases h2 : k = s <;> simp [h1, h2, eq_comm]

/-- what the final index holds for a key whose offers were `l`: the entry, unless the key is marked -/
def finalOf (l : List Ev) : Option Entry := if (keyState l).2 then none else (keyState l).1

/-- **The dictionary after `_make_index`**, key by key: before the final deletion the entry of `s` and its ambiguity
    mark are the per-key state after the events for `s`; the final index drops exactly the marked keys. -/
theorem makeIndex_get? {D : Type} (ops : DictOps D) (hl : ops.Lawful) (adapters : List Adapter) (isPrefix : Bool) (s : Bytes) :
    ops.get? (buildAll ops adapters).index s = (keyState (forKey s (events adapters))).1 ∧
    (s ∈ (buildAll ops adapters).ambKeys ↔ (keyState (forKey s (events adapters))).2 = true) ∧
    ops.get? (makeIndex ops adapters isPrefix).index s = finalOf (forKey s (events adapters)) := by
  have inv : Inv ops (events adapters) (buildAll ops adapters) :=
    buildAll_ind ops adapters (Inv ops) (fun s => by simp [forKey, keyState, hl.get?_empty]) fun a ai _ evs st =>
      addAdapter_ind ops a ai (Inv ops) (Inv ops) (fun it _ evs st => inv_addEntry ops hl evs st ai a.indels it) evs st
        fun _ h => by split <;> exact h
  obtain ⟨h1, _, h3⟩ := inv s
  refine ⟨h1, h3, ?_⟩
  simp only [makeIndex, get?_eraseAll ops hl, List.mem_reverse, h1, h3, finalOf]

theorem final_sub_built {D : Type} (ops : DictOps D) (hl : ops.Lawful) (adapters : List Adapter) (isPrefix : Bool)
    (s : Bytes) (en : Entry) (h : ops.get? (makeIndex ops adapters isPrefix).index s = some en) :
    ops.get? (buildAll ops adapters).index s = some en := by
  obtain ⟨h1, _, h3⟩ := makeIndex_get? ops hl adapters isPrefix s
  rw [h3, finalOf] at h
  split at h
  · cases h
  · rw [h1]; exact h

/-- **The per-key state, declaratively.** Nothing is stored iff nothing was offered; the entry is one of the offers, no
    offer had more matches, and the key is marked exactly when that largest number of matches was offered at least
    twice (a strictly better offer clears the mark of a tie between worse ones). -/
theorem keyState_spec (l : List Ev) :
    ((keyState l).1 = none → l = [] ∧ (keyState l).2 = false) ∧
    ∀ ai e m, (keyState l).1 = some (ai, e, m) →
      (∃ ev ∈ l, ev.ai = ai ∧ ev.e = e ∧ ev.m = m) ∧ (∀ ev ∈ l, ev.m ≤ m) ∧
      ((keyState l).2 = true ↔ 2 ≤ l.countP (·.m == m)) := by
  -- induction over the offers from the left, one `keyStep` each: `foldl_flatMap_ind` with singleton blocks
  have := foldl_flatMap_ind keyStep (fun ev => [ev]) (fun l st =>
    (st.1 = none → l = [] ∧ st.2 = false) ∧ ∀ ai e m, st.1 = some (ai, e, m) →
      (∃ ev ∈ l, ev.ai = ai ∧ ev.e = e ∧ ev.m = m) ∧ (∀ ev ∈ l, ev.m ≤ m) ∧ (st.2 = true ↔ 2 ≤ l.countP (·.m == m)))
    l [] (none, false) ⟨fun _ => ⟨rfl, rfl⟩, nofun⟩ ?_
  · rwa [List.nil_append, List.flatMap_singleton'] at this
  · intro ev _ l ⟨cur, amb⟩ ih
    cases cur with
    | none =>
      obtain ⟨rfl, rfl⟩ := ih.1 rfl
      refine ⟨nofun, fun ai e m h => ?_⟩
      cases h
      simp [keyStep]
    | some c =>
      obtain ⟨oa, oe, om⟩ := c
      obtain ⟨⟨ev0, hev0, ha0, he0, hm0⟩, hmax, hamb⟩ := ih.2 oa oe om rfl
      have hpos : 1 ≤ l.countP (·.m == om) := List.one_le_countP_iff.mpr ⟨ev0, hev0, by simp [hm0]⟩
      simp only [List.countP_append, List.countP_singleton, List.mem_append, List.mem_singleton, beq_iff_eq]
      rcases Nat.lt_trichotomy ev.m om with hlt | rfl | hgt
      · rw [keyStep_lt _ hlt]
        refine ⟨nofun, fun ai e m h => ?_⟩
        cases h
        refine ⟨⟨ev0, .inl hev0, ha0, he0, hm0⟩, ?_, ?_⟩
        · rintro x (hx | rfl)
          · exact hmax x hx
          · omega
        · rw [if_neg (by omega)]; exact hamb
      · rw [keyStep_tie]
        refine ⟨nofun, fun ai e m h => ?_⟩
        cases h
        refine ⟨⟨ev, .inr rfl, rfl, rfl, rfl⟩, ?_, ?_⟩
        · rintro x (hx | rfl)
          · exact hmax x hx
          · omega
        · rw [if_pos rfl]; exact ⟨fun _ => by omega, fun _ => rfl⟩
      · rw [keyStep_gt _ hgt]
        refine ⟨nofun, fun ai e m h => ?_⟩
        cases h
        refine ⟨⟨ev, .inr rfl, rfl, rfl, rfl⟩, ?_, ?_⟩
        · rintro x (hx | rfl)
          · have := hmax x hx; omega
          · omega
        · have : l.countP (·.m == ev.m) = 0 :=
            List.countP_eq_zero.mpr fun x hx => by have := hmax x hx; simp; omega
          simp [this]

/-- **Stored iff unique best offer.** -/
theorem finalOf_eq_some_iff (l : List Ev) (ai e m : Nat) :
    finalOf l = some (ai, e, m) ↔
      (∃ ev ∈ l, ev.ai = ai ∧ ev.e = e ∧ ev.m = m) ∧ (∀ ev ∈ l, ev.m ≤ m) ∧ l.countP (·.m == m) = 1 := by
  obtain ⟨hnone, hsome⟩ := keyState_spec l
  unfold finalOf
  constructor
  · intro h
    split at h
    · cases h
    · rename_i hb
      obtain ⟨⟨ev, hev, h1, h2, h3⟩, hmax, hamb⟩ := hsome ai e m h
      have : 1 ≤ l.countP (·.m == m) := List.one_le_countP_iff.mpr ⟨ev, hev, by simp [h3]⟩
      exact ⟨⟨ev, hev, h1, h2, h3⟩, hmax, by have := mt hamb.mpr hb; omega⟩
  · rintro ⟨⟨ev, hev, rfl, rfl, rfl⟩, hmax, hcnt⟩
    cases hks : (keyState l).1 with
    | none => rw [(hnone hks).1] at hev; cases hev
    | some en =>
      obtain ⟨ai', e', m'⟩ := en
      obtain ⟨⟨ev', hev', rfl, rfl, rfl⟩, hmax', hamb⟩ := hsome ai' e' m' hks
      have hm : ev'.m = ev.m := Nat.le_antisymm (hmax ev' hev') (hmax' ev hev)
      obtain rfl : ev' = ev := eq_of_countP_eq_one hcnt hev' hev (by simp [hm]) (by simp)
      rw [if_neg]
      rw [hamb]; omega

end Cutadapt.Index
