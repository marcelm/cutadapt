import Cutadapt.Proofs.StepsCore
/-! Running a prefix of a step list: `runStepsS/P (pre ++ rest)` first runs `pre`; the read is consumed there, or `rest`
    continues with what `pre` handed on. -/
namespace Cutadapt.Steps
open Cutadapt

/-- `R` relates the two lists element by element (core has no `List.Forall₂`) -/
inductive Forall2 (R : α → β → Prop) : List α → List β → Prop
  | nil : Forall2 R [] []
  | cons {a b l1 l2} : R a b → Forall2 R l1 l2 → Forall2 R (a :: l1) (b :: l2)

/-- run the steps `pre` (numbered from `idx`) on a read: the read handed on (`none` = consumed) and the events -/
def runPrefixS (ads : List Matchable) : List Step → Nat → Read → Info → Except Err (Option Read × List Event)
  | [], _, r, _ => .ok (some r, [])
  | s :: ss, idx, r, i =>
    match stepS ads idx s r i with
    | .error e => .error e
    | .ok (none, e) => .ok (none, e)
    | .ok (some r', e) =>
      match runPrefixS ads ss (idx + 1) r' i with
      | .error e' => .error e'
      | .ok (o, e2) => .ok (o, e ++ e2)

theorem runStepsS_append (ads : List Matchable) (pre rest : List Step) (idx : Nat) (r : Read) (i : Info)
    (evs0 : List Event) :
    runStepsS ads (pre ++ rest) idx r i evs0 =
      match runPrefixS ads pre idx r i with
      | .error e => .error e
      | .ok (none, e) => .ok (evs0 ++ e)
      | .ok (some r', e) => runStepsS ads rest (idx + pre.length) r' i (evs0 ++ e) := by
  induction pre generalizing idx r evs0 with
  | nil => simp [runPrefixS]
  | cons s ss ih =>
    simp only [List.cons_append, runStepsS, runPrefixS]
    rcases stepS ads idx s r i with e | ⟨_ | r', e⟩
    · rfl
    · rfl
    · simp only
      rw [ih]
      rcases runPrefixS ads ss (idx + 1) r' i with e' | ⟨_ | r2, e2⟩ <;> simp [Nat.add_assoc, Nat.add_comm 1]

def runPrefixP (a1 a2 : List Matchable) : List Step → Nat → Read × Read → Info × Info →
    Except Err (Option (Read × Read) × List Event)
  | [], _, r, _ => .ok (some r, [])
  | s :: ss, idx, r, i =>
    match stepP a1 a2 idx s r i with
    | .error e => .error e
    | .ok (none, e) => .ok (none, e)
    | .ok (some r', e) =>
      match runPrefixP a1 a2 ss (idx + 1) r' i with
      | .error e' => .error e'
      | .ok (o, e2) => .ok (o, e ++ e2)

theorem runStepsP_append (a1 a2 : List Matchable) (pre rest : List Step) (idx : Nat) (r : Read × Read) (i : Info × Info)
    (evs0 : List Event) :
    runStepsP a1 a2 (pre ++ rest) idx r i evs0 =
      match runPrefixP a1 a2 pre idx r i with
      | .error e => .error e
      | .ok (none, e) => .ok (evs0 ++ e)
      | .ok (some r', e) => runStepsP a1 a2 rest (idx + pre.length) r' i (evs0 ++ e) := by
  induction pre generalizing idx r evs0 with
  | nil => simp [runPrefixP]
  | cons s ss ih =>
    simp only [List.cons_append, runStepsP, runPrefixP]
    rcases stepP a1 a2 idx s r i with e | ⟨_ | r', e⟩
    · rfl
    · rfl
    · simp only
      rw [ih]
      rcases runPrefixP a1 a2 ss (idx + 1) r' i with e' | ⟨_ | r2, e2⟩ <;> simp [Nat.add_assoc, Nat.add_comm 1]

/-- a prefix of pass-through steps hands the read on unchanged, or consumes it with a `filtered` event and at most the
    redirect write -/
theorem runPrefixS_pass {ads : List Matchable} {pre : List Step} {idx : Nat} {r : Read} {i : Info} {o e}
    (hp : ∀ s ∈ pre, s.isPass = true) (h : runPrefixS ads pre idx r i = .ok (o, e)) :
    (o = some r ∧ ∀ ev ∈ e, isText ev = true) ∨
    (o = none ∧ ∃ texts k w, e = texts ++ .filtered (idx + k) :: redir w r none ∧ (∀ ev ∈ texts, isText ev = true) ∧
      ∃ p1 p2 mode, pre[k]? = some (.filter p1 p2 mode w)) := by
  induction pre generalizing idx e with
  | nil =>
    cases h
    exact .inl ⟨rfl, by simp⟩
  | cons s ss ih =>
    simp only [runPrefixS] at h
    rcases hs : stepS ads idx s r i with _ | ⟨o, e'⟩ <;> simp only [hs] at h
    · cases h
    rcases stepS_pass (hp s (.head _)) hs with ⟨rfl, ht⟩ | ⟨rfl, p, p2, mode, w, rfl, -, rfl⟩
    · rcases h2 : runPrefixS ads ss (idx + 1) r i with _ | ⟨o2, e2⟩ <;> simp only [h2] at h <;> cases h
      rcases ih (fun s hs => hp s (.tail _ hs)) h2 with ⟨rfl, ht2⟩ | ⟨rfl, texts, k, w, rfl, htx, hk⟩
      · exact .inl ⟨rfl, fun ev hev => (List.mem_append.1 hev).elim (ht ev) (ht2 ev)⟩
      · exact .inr ⟨rfl, e' ++ texts, k + 1, w, by simp [Nat.add_assoc, Nat.add_comm 1],
          fun ev hev => (List.mem_append.1 hev).elim (ht ev) (htx ev), by simpa using hk⟩
    · cases h
      exact .inr ⟨rfl, [], 0, w, by simp, by simp, _, _, _, rfl⟩
end Cutadapt.Steps
