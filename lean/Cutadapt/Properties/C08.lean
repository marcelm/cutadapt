import Cutadapt.Generated.Tolerance
import Cutadapt.Proofs.IndexSphere
import Cutadapt.Proofs.IndexEnv
import Cutadapt.Proofs.IndexDict
import Cutadapt.Proofs.IndexOrder
import Cutadapt.Proofs.IndexLookup
import Cutadapt.Proofs.IndexLengths
import Cutadapt.Proofs.IndexNearest
/-! # C08 — an adapter index changes only speed, never what is found

Model: `Cutadapt/Index.lean` (`hammingSphere`, `editEnvironment`, `makeIndex`, `indexMatchTo`).
The theorems hold for every string / adapter list / read (induction, no sampling) and for *every* dictionary
implementation that satisfies the three lookup laws (`DictOps.Lawful`): the association list used in the `decide`
examples and the `Std.HashMap` the compiled driver runs (`dict_instances_lawful`).

History. Three defects found by the oracle of `harness/props/c08.py` were repaired in the tree (commits 6d0af29, ecc3a50,
ee05d18) and the model follows the repaired code:
* a read shorter than an indexed length got coordinates outside the read (`-a ACGT$ -a ACACGT$`, read `ACGT`:
  `rstart = −2`) — now `index_sound` holds for reads of every length (`example`s below show the former reproducers);
* an ambiguity mark between two worse candidates was never cleared when a strictly better adapter arrived later
  (`^TCGTACGT ^CCGTACGT ^ACGTACGT`, one mismatch, read `ACGTACGTAA` stayed unassigned) — now the mark is exactly "the best
  number of matches was offered at least twice" (`index_fold_invariant`), the final index is independent of the adapter order
  (`index_order_independent`) and the strictly nearest adapter is reported (`index_nearest`);
* for a read with `N` the re-alignment of `_lookup_with_n` was reported with the looked-up length — now with its own length
  (model: `lookupWithN`; covered by the correspondence and the oracle, soundness of the re-alignment itself is C01).
-/
namespace Cutadapt.C08
open Cutadapt Cutadapt.Adapters Cutadapt.Index

/-- strings over the alphabet A, C, G, T (upper case) -/
def IsACGT (s : Bytes) : Prop := ∀ c ∈ s, c ∈ acgt
instance (s : Bytes) : Decidable (IsACGT s) := by unfold IsACGT; infer_instance

/-- **`hamming_sphere(t, e)`** yields exactly the ACGT strings of the same length at Hamming distance `e`, each once —
    for every `e` (special cases 0, 1, 2 and the recursion for `e ≥ 3`). -/
theorem hamming_sphere_spec (t : Bytes) (e : Nat) (ht : IsACGT t) :
    (∀ s, s ∈ hammingSphere t e ↔ s.length = t.length ∧ IsACGT s ∧ Spec.hamming (· == ·) s t = e) ∧
    (hammingSphere t e).Nodup :=
  ⟨hammingSphere_spec t e ht, hammingSphere_nodup t e⟩

/-- the enumeration order too: vary the first character (three other letters, in the order of "ACGT") before keeping it -/
theorem hamming_sphere_order (t : Bytes) (e : Nat) : hammingSphere t e = sphereG e t :=
  hammingSphereK_eq_sphereG e t

example : hammingSphere [65, 67] 1 = [[67, 67], [71, 67], [84, 67], [65, 65], [65, 71], [65, 84]] := by decide +kernel
example : (hammingSphere [65, 67, 71, 84, 65] 3).length = 270 := by decide +kernel   -- C(5,3) · 3³
example : [84, 67, 65] ∈ hammingSphere [65, 67, 71] 2 :=
  ((hamming_sphere_spec [65, 67, 71] 2 (by decide)).1 _).mpr (by decide)

/-- **`edit_environment(t, k)` is sound**: every yielded `(s, e, m)` has `s` over ACGT, `e ≤ k`, and `e` is the
    unit-cost edit distance of `t` and `s` (some alignment costs `e`, none is cheaper). -/
theorem edit_environment_sound (t : Bytes) (k : Nat) (ht : IsACGT t) (s : Bytes) (e m : Nat)
    (h : (s, e, m) ∈ editEnvironment t k) : IsACGT s ∧ e ≤ k ∧ Spec.IsDist (· == ·) 1 t s e :=
  editEnvironment_sound t k ht s e m h

/-- **… and complete**: every ACGT string within distance `k` is yielded, with its distance, exactly once.
    (`t ≠ []`: for the empty string and `k ≥ 1` the code stops after the one-letter strings, because `min_cost`
    ignores column 0 — see the `example` below; adapters are never empty.) -/
theorem edit_environment_complete (t : Bytes) (k : Nat) (ht : IsACGT t) (hne : t ≠ [] ∨ k = 0) :
    (∀ s d, IsACGT s → Spec.IsDist (· == ·) 1 t s d → d ≤ k → ∃ m, (s, d, m) ∈ editEnvironment t k) ∧
    ((editEnvironment t k).map (·.1)).Nodup :=
  ⟨fun s d hs hd hk => editEnvironment_complete t k ht hne s d hs hd hk, editEnvironment_nodup t k⟩

example : (editEnvironment [65, 67] 1).map (·.1) =
    [[65], [65, 65], [65, 65, 67], [65, 67], [65, 67, 65], [65, 67, 67], [65, 67, 71], [65, 67, 84], [65, 71],
     [65, 71, 67], [65, 84], [65, 84, 67], [67], [67, 65, 67], [67, 67], [71, 65, 67], [71, 67], [84, 65, 67], [84, 67]] := by
  decide +kernel
example : Spec.IsDist (· == ·) 1 [65, 67, 71, 84] [65, 71, 84, 84] 2 :=
  (edit_environment_sound [65, 67, 71, 84] 2 (by decide) [65, 71, 84, 84] 2 2 (by decide +kernel)).2.2
/-- the quirk excluded by `hne`: "AA" is within distance 2 of the empty string but is not listed -/
example : (editEnvironment [] 2).map (·.1) = [[], [65], [67], [71], [84]] := by decide +kernel

theorem dict_instances_lawful : alistOps.Lawful ∧ hashOps.Lawful := ⟨alistOps_lawful, hashOps_lawful⟩

/-- **Invariant of the fold over the adapters** (for every adapter list, hence after each `a_j`), key by key, where
    `offers` are the loop-body executions `(adapter, s, errors, matches)` for the string `s` in processing order:
    * `s` is absent iff nothing was offered;
    * the entry is one of the offers and no offer had more matches;
    * `s` is in `ambiguous` iff the entry's number of matches — the best one — was offered at least twice (a tie between
      two worse offers is forgotten as soon as a strictly better offer arrives);
    * the final index holds the entry unless `s` is marked. -/
theorem index_fold_invariant {D : Type} (ops : DictOps D) (hl : ops.Lawful) (adapters : List Adapter) (isPrefix : Bool)
    (s : Bytes) :
    let st := buildAll ops adapters
    let offers := forKey s (events adapters)
    (ops.get? st.index s = none ↔ offers = []) ∧
    (∀ ai e m, ops.get? st.index s = some (ai, e, m) →
      (∃ ev ∈ offers, ev.ai = ai ∧ ev.e = e ∧ ev.m = m) ∧ (∀ ev ∈ offers, ev.m ≤ m) ∧
      (s ∈ st.ambKeys ↔ 2 ≤ (offers.filter (fun ev => ev.m == m)).length)) ∧
    (ops.get? st.index s = none → s ∉ st.ambKeys) ∧
    ops.get? (makeIndex ops adapters isPrefix).index s = (if s ∈ st.ambKeys then none else ops.get? st.index s) := by
  intro st offers
  obtain ⟨h1, h2, h3⟩ := makeIndex_get? ops hl adapters isPrefix s
  obtain ⟨hnone, hsome⟩ := keyState_spec (forKey s (events adapters))
  refine ⟨?_, ?_, ?_, ?_⟩
  · rw [h1]
    refine ⟨fun h => (hnone h).1, fun h => ?_⟩
    rw [show forKey s (events adapters) = [] from h, keyState_nil]
  · intro ai e m h
    obtain ⟨hmem, hmax, hamb⟩ := hsome ai e m (h1 ▸ h)
    exact ⟨hmem, hmax, by rw [h2, hamb, List.countP_eq_length_filter]⟩
  · intro hn hm
    have := (hnone (h1 ▸ hn)).2
    rw [h2.mp hm] at this; cases this
  · show ops.get? (makeIndex ops adapters isPrefix).index s =
      (if s ∈ (buildAll ops adapters).ambKeys then none else ops.get? (buildAll ops adapters).index s)
    simp only [h3, finalOf, h1, h2]

/-- **Order independence**: the final index holds the same adapter, errors and matches for every string — and lacks
    the same strings — under every permutation of the adapter list. -/
theorem index_order_independent {D : Type} (ops : DictOps D) (hl : ops.Lawful) (as bs : List Adapter)
    (hp : as.Perm bs) (isPrefix : Bool) (s : Bytes) :
    finalEntry ops as isPrefix s = finalEntry ops bs isPrefix s :=
  finalEntry_perm ops hl as bs hp isPrefix s

/-- the final index, declaratively: `(a, e, m)` is stored for `s` iff `(a, s, e, m)` is the unique best offer -/
theorem index_entry_iff_unique_best {D : Type} (ops : DictOps D) (hl : ops.Lawful) (adapters : List Adapter) (isPrefix : Bool)
    (s : Bytes) (a : Adapter) (e m : Nat) :
    finalEntry ops adapters isPrefix s = some (a, e, m) ↔ IsWinner (rForKey s (rEvents adapters)) (a, s, e, m) :=
  finalEntry_eq_some_iff ops hl adapters isPrefix s a e m

/-- anchored adapter with a fixed number `k` of allowed errors, for the examples -/
def mkA (ty : AdapterType) (seq : Bytes) (k : Nat) (indels : Bool) : Adapter :=
  { ty := ty, seq := seq, thr := fun _ => k, minOverlap := seq.length, readWildcards := false,
    adapterWildcards := false, indels := indels }

/-- "ACGT", "ACGA" with one mismatch allowed: "ACGC" and "ACGG" are offered by both with 3 matches — marked and deleted -/
example : (buildAll alistOps [mkA .prefix [65,67,71,84] 1 false, mkA .prefix [65,67,71,65] 1 false]).ambKeys
    = [[65,67,71,71], [65,67,71,67]] := by decide +kernel
example : alistOps.get? (makeIndex alistOps [mkA .prefix [65,67,71,84] 1 false, mkA .prefix [65,67,71,65] 1 false] true).index
    [65,67,71,67] = none := by decide +kernel
/-- "ACGT" itself is offered with 4 matches by the first and 3 by the second adapter: same entry in both orders -/
example : (alistOps.get? (makeIndex alistOps [mkA .prefix [65,67,71,84] 1 false, mkA .prefix [65,67,71,65] 1 false] true).index
      [65,67,71,84]).map (·.2) = some (0, 4) ∧
    (alistOps.get? (makeIndex alistOps [mkA .prefix [65,67,71,65] 1 false, mkA .prefix [65,67,71,84] 1 false] true).index
      [65,67,71,84]).map (·.2) = some (0, 4) := by decide +kernel
/-- the former defect: "TCGTACGT", "CCGTACGT" tie on "ACGTACGT" (7 matches), then "ACGTACGT" offers it with 8 — the mark
    is cleared and the string stays in the index, for the third adapter -/
example : alistOps.get? (makeIndex alistOps
      [mkA .prefix [84,67,71,84,65,67,71,84] 1 false, mkA .prefix [67,67,71,84,65,67,71,84] 1 false,
       mkA .prefix [65,67,71,84,65,67,71,84] 1 false] true).index [65,67,71,84,65,67,71,84] = some (2, 0, 8) := by
  decide +kernel

/-- **Key-level soundness of `_match_to_one_length` / `_match_to_multiple_lengths`**, for any index whose keys have
    indexed lengths, on every N-free read (short ones included): a returned match has `0 ≤ rstart ≤ rstop ≤ n`, is
    anchored, and the removed affix (of the upper-cased read) is a key of the index whose entry is the reported adapter
    with the reported errors and score. -/
theorem index_lookup_sound {D : Type} (ops : DictOps D) (idx : AdapterIndex D) (read : Bytes)
    (hN : (78 : UInt8) ∉ read.map asciiUpper)
    (hdesc : idx.lengths.Pairwise (· ≥ ·))
    (hkeys : ∀ s en, ops.get? idx.index s = some en → s.length ∈ idx.lengths)
    (hpos : idx.isPrefix = false → ∀ l ∈ idx.lengths, 1 ≤ l)
    (mt : IndexMatch) (h : indexMatchTo ops idx read = some mt) :
    0 ≤ mt.rstart ∧ mt.rstart ≤ mt.rstop ∧ mt.rstop ≤ read.length ∧
    (if idx.isPrefix then mt.rstart = 0 else mt.rstop = read.length) ∧
    mt.astart = 0 ∧ mt.astop = (idx.adapters.getD mt.adapter default).seq.length ∧
    ∃ m : Nat, mt.score = m ∧
      ops.get? idx.index (if idx.isPrefix then (read.map asciiUpper).take mt.rstop
                          else (read.map asciiUpper).drop mt.rstart.toNat) = some (mt.adapter, mt.errors, m) := by
  obtain ⟨ai, len, m, e, rfl, -, hl, hg⟩ := indexMatchTo_key ops idx read hN hdesc hkeys hpos mt h
  obtain ⟨h1, h2, h3, h4, h5, h6⟩ := makeMatch_spec idx ai len m e read _ rfl
  obtain ⟨c1, c2, c3, c4⟩ := makeMatch_coords idx ai len m e read hl _ rfl
  rw [h1, h5]
  refine ⟨c1, c2, c3, c4, h2, h3, m, h4, ?_⟩
  cases hp : idx.isPrefix <;> simp only [hp, Bool.false_eq_true, if_false, if_true, removedAffix, List.length_map] at h6 hg ⊢
  · rw [show (makeMatch idx ai len m e read).rstart.toNat = read.length - len by omega]; exact hg
  · rw [h6.2]; exact hg

theorem makeIndex_lengths_desc {D : Type} (ops : DictOps D) (adapters : List Adapter) (isPrefix : Bool) :
    (makeIndex ops adapters isPrefix).lengths.Pairwise (· ≥ ·) := sortDesc_pairwise _

/-- an entry of the final index was offered by the adapter it names -/
theorem index_entry_offered {D : Type} (ops : DictOps D) (hl : ops.Lawful) (adapters : List Adapter) (isPrefix : Bool)
    (s : Bytes) (ai e m : Nat) (h : ops.get? (makeIndex ops adapters isPrefix).index s = some (ai, e, m)) :
    ∃ a, adapters[ai]? = some a ∧ (s, e, m) ∈ adapterItems a := by
  rw [(makeIndex_get? ops hl adapters isPrefix s).2.2] at h
  obtain ⟨⟨ev, hev, rfl, rfl, rfl⟩, _⟩ := (finalOf_eq_some_iff _ _ _ _).mp h
  obtain ⟨hmem, rfl⟩ := mem_forKey.mp hev
  exact (mem_events adapters ev).mp hmem

/-- what an offer of an adapter over ACGT means (relative to the two specifications above) -/
theorem adapterItems_spec (a : Adapter) (ha : IsACGT a.seq) (s : Bytes) (e m : Nat) (h : (s, e, m) ∈ adapterItems a) :
    e ≤ adapterK a ∧
    (if a.indels then Spec.IsDist (· == ·) 1 a.seq s e
     else s.length = a.seq.length ∧ Spec.hamming (· == ·) s a.seq = e) := by
  cases hi : a.indels
  · obtain ⟨hk, hs, _⟩ := (items_noindel_mem a hi s e m).mp h
    have := (hammingSphere_spec a.seq e ha s).mp hs
    exact ⟨hk, this.1, this.2.2⟩
  · rw [adapterItems, hi, if_pos rfl] at h
    have := editEnvironment_sound a.seq (adapterK a) ha s e m h
    exact ⟨this.2.1, this.2.2⟩

/-- the length of every key of the final index is one of `lengths` -/
theorem index_keys_have_indexed_length {D : Type} (ops : DictOps D) (hl : ops.Lawful) (adapters : List Adapter)
    (isPrefix : Bool) (hacgt : ∀ a ∈ adapters, IsACGT a.seq) (s : Bytes) (en : Entry)
    (h : ops.get? (makeIndex ops adapters isPrefix).index s = some en) :
    s.length ∈ (makeIndex ops adapters isPrefix).lengths := by
  have hb : ops.get? (buildAll ops adapters).index s ≠ none := by
    rw [final_sub_built ops hl adapters isPrefix s en h]; nofun
  exact (mem_sortDesc _ _).mpr ((buildAll_lengths ops hl adapters hacgt).1 s hb)

/-- no indexed length is 0 when every adapter tolerates fewer errors than it is long -/
theorem index_lengths_positive {D : Type} (ops : DictOps D) (hl : ops.Lawful) (adapters : List Adapter) (isPrefix : Bool)
    (hacgt : ∀ a ∈ adapters, IsACGT a.seq) (htol : ∀ a ∈ adapters, adapterK a < a.seq.length) :
    ∀ l ∈ (makeIndex ops adapters isPrefix).lengths, 1 ≤ l := by
  intro l hl'
  have hl'' : l ∈ (buildAll ops adapters).lengths := (mem_sortDesc _ _).mp hl'
  obtain ⟨ev, hev, hlen⟩ := (buildAll_lengths ops hl adapters hacgt).2 l hl''
  obtain ⟨a, ha, hit⟩ := (mem_events adapters ev).mp hev
  have hmem := List.mem_of_getElem? ha
  obtain ⟨hk, hd⟩ := adapterItems_spec a (hacgt a hmem) _ _ _ hit
  have ht := htol a hmem
  cases hi : a.indels
  · simp only [hi, Bool.false_eq_true, if_false] at hd
    omega
  · simp only [hi, if_true] at hd
    obtain ⟨⟨sc, h1, h2, h3⟩, _⟩ := hd
    have := (length_le_dist h1 h2).1
    omega

/-- the soundness clause of C08 for one configuration -/
def IndexSoundFor {D : Type} (ops : DictOps D) (adapters : List Adapter) (isPrefix : Bool) (read : Bytes) : Prop :=
  ∀ mt, indexMatchTo ops (makeIndex ops adapters isPrefix) read = some mt →
    ∃ a, adapters[mt.adapter]? = some a ∧
      0 ≤ mt.rstart ∧ mt.rstart ≤ mt.rstop ∧ mt.rstop ≤ read.length ∧
      (if isPrefix then mt.rstart = 0 else mt.rstop = read.length) ∧
      mt.astart = 0 ∧ mt.astop = a.seq.length ∧ mt.errors ≤ adapterK a ∧
      (if a.indels then
         Spec.IsDist (· == ·) 1 a.seq
           (if isPrefix then (read.map asciiUpper).take mt.rstop else (read.map asciiUpper).drop mt.rstart.toNat) mt.errors
       else
         (if isPrefix then (read.map asciiUpper).take mt.rstop else (read.map asciiUpper).drop mt.rstart.toNat).length
           = a.seq.length ∧
         Spec.hamming (· == ·)
           (if isPrefix then (read.map asciiUpper).take mt.rstop else (read.map asciiUpper).drop mt.rstart.toNat) a.seq
           = mt.errors)

/-- **Soundness of the index** (N-free reads of every length, short ones included): every match returned through the
    index lies inside the read, is anchored, names an adapter of the list, `errors` is within that adapter's tolerance
    and is the exact edit (Hamming, if indels are off) distance between the adapter and the removed affix of the
    upper-cased read. Side condition, for 3' adapters only: every adapter tolerates fewer errors than it is long (otherwise
    the empty string is indexed and `s[-0:]` is the whole string). Reads with `N` go through `_lookup_with_n`, whose
    result is a `match_to` of the adapter itself (C01). -/
theorem index_sound {D : Type} (ops : DictOps D) (hl : ops.Lawful) (adapters : List Adapter) (isPrefix : Bool)
    (read : Bytes) (hacgt : ∀ a ∈ adapters, IsACGT a.seq) (hN : (78 : UInt8) ∉ read.map asciiUpper)
    (htol : isPrefix = false → ∀ a ∈ adapters, adapterK a < a.seq.length) :
    IndexSoundFor ops adapters isPrefix read := by
  intro mt h
  obtain ⟨h1, h2, h3, h4, h5, h6, m, _, hg⟩ :=
    index_lookup_sound ops (makeIndex ops adapters isPrefix) read hN (makeIndex_lengths_desc ops adapters isPrefix)
      (index_keys_have_indexed_length ops hl adapters isPrefix hacgt)
      (fun hp => index_lengths_positive ops hl adapters isPrefix hacgt (htol hp)) mt h
  have hpfx : (makeIndex ops adapters isPrefix).isPrefix = isPrefix := rfl
  have hads : (makeIndex ops adapters isPrefix).adapters = adapters := rfl
  rw [hpfx] at h4 hg
  rw [hads] at h6
  obtain ⟨a, hai, hoff⟩ := index_entry_offered ops hl adapters isPrefix _ _ _ _ hg
  have haA : IsACGT a.seq := hacgt a (List.mem_of_getElem? hai)
  obtain ⟨hk, hd⟩ := adapterItems_spec a haA _ _ _ hoff
  rw [getD_of_getElem? default hai] at h6
  exact ⟨a, hai, h1, h2, h3, h4, h5, h6, hk, hd⟩

/-- **Per-adapter indel settings** (`;noindels` on some adapters of one index): `index_sound` uses each adapter's own
    flag. In particular a match reported for an adapter that does not allow indels removes exactly as many characters as
    the adapter is long, and `errors` is their Hamming distance — whatever the other adapters of the index allow. -/
theorem index_noindels_adapter_is_hamming {D : Type} (ops : DictOps D) (hl : ops.Lawful) (adapters : List Adapter)
    (isPrefix : Bool) (read : Bytes) (hacgt : ∀ a ∈ adapters, IsACGT a.seq) (hN : (78 : UInt8) ∉ read.map asciiUpper)
    (htol : isPrefix = false → ∀ a ∈ adapters, adapterK a < a.seq.length)
    (mt : IndexMatch) (h : indexMatchTo ops (makeIndex ops adapters isPrefix) read = some mt)
    (a : Adapter) (ha : adapters[mt.adapter]? = some a) (hni : a.indels = false) :
    (mt.rstop : Int) - mt.rstart = a.seq.length ∧
    Spec.hamming (· == ·)
      (if isPrefix then (read.map asciiUpper).take mt.rstop else (read.map asciiUpper).drop mt.rstart.toNat) a.seq
      = mt.errors ∧ mt.errors ≤ adapterK a := by
  obtain ⟨a', ha', h0, h1, h2, h3, _, _, hk, hd⟩ := index_sound ops hl adapters isPrefix read hacgt hN htol mt h
  rw [ha] at ha'
  obtain rfl := Option.some.inj ha'
  simp only [hni, Bool.false_eq_true, if_false] at hd
  refine ⟨?_, hd.2, hk⟩
  have hlen := hd.1
  cases isPrefix
  · simp only [Bool.false_eq_true, if_false, List.length_drop, List.length_map] at hlen h3
    omega
  · simp only [if_true, List.length_take, List.length_map] at hlen h3
    omega

/-- `-g "^ACGTACGTAC;noindels" -g "^TTGCAATTGC"` (one error each), read `ACGTACCGTACACACCGTTTT`: the first adapter would
    fit with one insertion, but it does not allow indels — nothing is reported (an index that built the edit environment
    for every adapter would remove 11 characters) -/
example : indexMatchTo alistOps (makeIndex alistOps
      [mkA .prefix [65,67,71,84,65,67,71,84,65,67] 1 false, mkA .prefix [84,84,71,67,65,65,84,84,71,67] 1 true] true)
      [65,67,71,84,65,67,67,71,84,65,67,65,67,65,67,67,71,84,84,84,84] = none := noindels_vectors.1
/-- … while the second adapter of the same index does match with a deletion (`TTGCATTGC…`) -/
example : indexMatchTo alistOps (makeIndex alistOps
      [mkA .prefix [65,67,71,84,65,67,71,84,65,67] 1 false, mkA .prefix [84,84,71,67,65,65,84,84,71,67] 1 true] true)
      [84,84,71,67,65,84,84,71,67,65,65,65] = some ⟨1, 0, 10, 0, 9, 9, 1⟩ := noindels_vectors.2

/-- **Coordinates inside the read for every read — with or without `N`, of any length**: `0 ≤ rstart ≤ rstop ≤ n` and
    the match is anchored. For reads with `N` the match length is that of the re-alignment by the adapter's own
    `match_to`; `RealignInside adapters` is the C01 fact that such a re-alignment lies inside the string it was given
    (`C01.matchTo_sound … .bounds`, for every well-formed adapter). -/
theorem index_coordinates_in_read {D : Type} (ops : DictOps D) (hl : ops.Lawful) (adapters : List Adapter) (isPrefix : Bool)
    (read : Bytes) (hacgt : ∀ a ∈ adapters, IsACGT a.seq) (hre : RealignInside adapters)
    (mt : IndexMatch) (h : indexMatchTo ops (makeIndex ops adapters isPrefix) read = some mt) :
    0 ≤ mt.rstart ∧ mt.rstart ≤ mt.rstop ∧ mt.rstop ≤ read.length ∧
    (if isPrefix then mt.rstart = 0 else mt.rstop = read.length) := by
  refine indexMatchTo_coords ops (makeIndex ops adapters isPrefix) read ?_
    (index_keys_have_indexed_length ops hl adapters isPrefix hacgt) hre mt h
  intro s ai e m hg
  obtain ⟨a, hai, _⟩ := index_entry_offered ops hl adapters isPrefix s ai e m hg
  exact (getD_of_getElem? default hai).symm ▸ List.mem_of_getElem? hai

/-- former defect 3 (`^ACGTACGT`, `^TTTTGGGG`, one error, indels; read `ACGTACGTNA`): the affix `ACGTACGTN` of length 9
    is looked up, the re-alignment covers 8 characters with 0 errors, and 8 — not 9 — characters are removed -/
example : indexMatchTo alistOps (makeIndex alistOps
      [mkA .prefix [65,67,71,84,65,67,71,84] 1 true, mkA .prefix [84,84,84,84,71,71,71,71] 1 true] true)
      [65,67,71,84,65,67,71,84,78,65] = some ⟨0, 0, 8, 0, 8, 8, 0⟩ := by decide +kernel

/-- former defect 1 (3' adapters `ACGT$`, `ACACGT$`, read `ACGT`, shorter than the indexed length 6): the length 6 is
    skipped now and the read is found at length 4, `rstart = 0` (was `−2`) -/
example : indexMatchTo alistOps (makeIndex alistOps [mkA .suffix [65,67,71,84] 0 false, mkA .suffix [65,67,65,67,71,84] 0 false] false)
    [65,67,71,84] = some ⟨0, 0, 4, 0, 4, 4, 0⟩ := by decide +kernel
/-- the same on a 5' index: `rstop = 4` (was 6) -/
example : indexMatchTo alistOps (makeIndex alistOps [mkA .prefix [65,67,71,84] 0 false, mkA .prefix [65,67,71,84,65,67] 0 false] true)
    [65,67,71,84] = some ⟨0, 0, 4, 0, 4, 4, 0⟩ := by decide +kernel
/-- a longer read: found, inside the read -/
example : indexMatchTo alistOps (makeIndex alistOps [mkA .suffix [65,67,71,84] 0 false, mkA .suffix [65,67,65,67,71,84] 0 false] false)
    [84,84,65,67,71,84] = some ⟨0, 0, 4, 2, 6, 4, 0⟩ := by decide +kernel
/-- an instance of `index_sound` with indels: 3' adapter `ACGT$` with one error, read `GGACT` -/
example : IndexSoundFor alistOps [mkA .suffix [65,67,71,84] 1 true, mkA .suffix [84,84,84,84] 1 true] false [71,71,65,67,84] :=
  index_sound alistOps alistOps_lawful _ false _ (by decide) (by decide) (fun _ => by decide)
example : indexMatchTo alistOps (makeIndex alistOps [mkA .suffix [65,67,71,84] 1 true, mkA .suffix [84,84,84,84] 1 true] false)
    [71,71,65,67,84] = some ⟨0, 0, 4, 2, 5, 3, 1⟩ := by decide +kernel

/-- **The strictly nearest admissible adapter is reported** (equally long adapters, no indels, upper-case ACGT read at
    least as long as the adapters) — what the uniqueness and agreement clauses of C08 come to: if the adapter at position
    `i` is within its tolerance of the read's affix and strictly closer to it than every other admissible adapter, the
    index reports adapter `i` with that distance, whatever the order of the list and whatever ties exist between worse
    candidates. `Admissible adapters s j b`: `b` is the adapter at position `j` and `s` is within `b`'s tolerance. -/
theorem index_nearest {D : Type} (ops : DictOps D) (hl : ops.Lawful) (adapters : List Adapter) (isPrefix : Bool)
    (read : Bytes) (L : Nat)
    (hads : ∀ a ∈ adapters, IsACGT a.seq ∧ a.seq.length = L ∧ a.indels = false)
    (hread : IsACGT read) (hL : L ≤ read.length) (hL1 : 1 ≤ L)
    (i : Nat) (a : Adapter) (hadm : Admissible adapters (removedAffix isPrefix read L) i a)
    (hstrict : ∀ j b, Admissible adapters (removedAffix isPrefix read L) j b → j ≠ i →
      Spec.hamming (· == ·) (removedAffix isPrefix read L) a.seq < Spec.hamming (· == ·) (removedAffix isPrefix read L) b.seq) :
    ∃ mt, indexMatchTo ops (makeIndex ops adapters isPrefix) read = some mt ∧ mt.adapter = i ∧
      mt.errors = Spec.hamming (· == ·) (removedAffix isPrefix read L) a.seq ∧
      mt.astart = 0 ∧ mt.astop = L ∧
      (if isPrefix then mt.rstart = 0 ∧ mt.rstop = L else mt.rstart = ((read.length - L : Nat) : Int) ∧ mt.rstop = read.length) := by
  have hmem : a ∈ adapters := List.mem_of_getElem? hadm.1
  have hup := asciiUpper_acgt read hread
  have hN : (78 : UInt8) ∉ read.map asciiUpper := by
    rw [hup]; exact fun h => absurd (hread 78 h) (by decide)
  have hentry := nearest_entry ops hl adapters isPrefix L hads _ (fun c hc => hread c (removedAffix_subset _ _ _ c hc))
    ((removedAffix_length _ _ _).trans (Nat.min_eq_left hL)) i a hadm hstrict
  generalize Spec.hamming (· == ·) (removedAffix isPrefix read L) a.seq = d at hentry ⊢
  have hit := indexMatchTo_one_hit ops (makeIndex ops adapters isPrefix) read L
    (makeIndex_lengths_equal ops adapters isPrefix L (List.ne_nil_of_mem hmem) fun b hb => ⟨(hads b hb).2.2, (hads b hb).2.1⟩)
    hN (fun _ => hL1) i d (L - d) (by rw [hup]; exact hentry)
  obtain ⟨h1, h2, h3, _, h5, h6⟩ := makeMatch_spec (makeIndex ops adapters isPrefix) i L (L - d : Nat) d read _ rfl
  rw [show (makeIndex ops adapters isPrefix).adapters.getD i default = a from getD_of_getElem? default hadm.1,
    (hads a hmem).2.1] at h3
  refine ⟨_, hit, h1, h5, h2, h3, ?_⟩
  have hidxp : (makeIndex ops adapters isPrefix).isPrefix = isPrefix := rfl
  cases isPrefix <;> simp only [hidxp, Bool.false_eq_true, if_false, if_true] at h6 ⊢
  · exact ⟨by omega, h6.2⟩
  · exact h6

/-- **Uniqueness** (equally long adapters, no indels): when exactly one indexed adapter is within its tolerance of the
    read's affix, the index reports that adapter. -/
theorem index_unique {D : Type} (ops : DictOps D) (hl : ops.Lawful) (adapters : List Adapter) (isPrefix : Bool)
    (read : Bytes) (L : Nat)
    (hads : ∀ a ∈ adapters, IsACGT a.seq ∧ a.seq.length = L ∧ a.indels = false)
    (hread : IsACGT read) (hL : L ≤ read.length) (hL1 : 1 ≤ L)
    (i : Nat) (a : Adapter) (hadm : Admissible adapters (removedAffix isPrefix read L) i a)
    (honly : ∀ j b, Admissible adapters (removedAffix isPrefix read L) j b → j = i) :
    ∃ mt, indexMatchTo ops (makeIndex ops adapters isPrefix) read = some mt ∧ mt.adapter = i ∧
      mt.errors = Spec.hamming (· == ·) (removedAffix isPrefix read L) a.seq := by
  obtain ⟨mt, h1, h2, h3, _⟩ := index_nearest ops hl adapters isPrefix read L hads hread hL hL1 i a hadm
    (fun j b hb hne => absurd (honly j b hb) hne)
  exact ⟨mt, h1, h2, h3⟩

/-- former defect 2: `^TCGTACGT`, `^CCGTACGT`, `^ACGTACGT`, one mismatch, no indels, read `ACGTACGTAA` — the exact adapter
    is listed last, after the two that tie on its sequence; it is reported (the read used to stay unassigned) -/
theorem index_cleared_tie_witness :
    indexMatchTo alistOps (makeIndex alistOps
      [mkA .prefix [84,67,71,84,65,67,71,84] 1 false, mkA .prefix [67,67,71,84,65,67,71,84] 1 false,
       mkA .prefix [65,67,71,84,65,67,71,84] 1 false] true) [65,67,71,84,65,67,71,84,65,65]
    = some ⟨2, 0, 8, 0, 8, 8, 0⟩ := by decide +kernel

/-- the same through `index_nearest` -/
example : ∃ mt, indexMatchTo alistOps (makeIndex alistOps
      [mkA .prefix [84,67,71,84,65,67,71,84] 1 false, mkA .prefix [67,67,71,84,65,67,71,84] 1 false,
       mkA .prefix [65,67,71,84,65,67,71,84] 1 false] true) [65,67,71,84,65,67,71,84,65,65] = some mt ∧ mt.adapter = 2 := by
  have := index_nearest alistOps alistOps_lawful
    [mkA .prefix [84,67,71,84,65,67,71,84] 1 false, mkA .prefix [67,67,71,84,65,67,71,84] 1 false,
     mkA .prefix [65,67,71,84,65,67,71,84] 1 false] true [65,67,71,84,65,67,71,84,65,65] 8
    (by decide) (by decide) (by decide) (by decide) 2 _ ⟨rfl, by decide⟩
    (by
      intro j b hb hne
      match j, hb, hne with
      | 0, ⟨h1, _⟩, _ => simp at h1; subst h1; decide
      | 1, ⟨h1, _⟩, _ => simp at h1; subst h1; decide
      | 2, _, hne => exact absurd rfl hne
      | j+3, ⟨h1, _⟩, _ => simp at h1)
  obtain ⟨mt, h1, h2, _⟩ := this
  exact ⟨mt, h1, h2⟩

/-! ## Tolerance over the full adapter for absolute error counts (regenerated from the working tree on every run) -/

/-- `-e k` on an adapter of `n` informative bases is stored as the double `k/n`; over the whole adapter the tolerance is `floor(fl(k/n) · n)`
    (`thrOfRate`), which is `k - 1` for a few pairs such as (1, 49) -/
def fullTolerance (k n : Nat) : Nat := Cutadapt.Adapters.thrOfRate (Float.ofNat k / Float.ofNat n) n

/-- **Through the adapter index the real program accepts the same number of substitutions as the adapter alone** (`floor(fl(k/n) · n)`; observed for `k ≤ 2`, where
    the index is small): the index's own computation of the tolerance and the adapter's agree on the working tree -/
theorem generated_index_tolerance :
    ∀ row ∈ Cutadapt.Generated.toleranceRows, row.2.2.2.1 = none ∨ (row.2.2.2.1 = some (fullTolerance row.1 row.2.1) ∧ row.2.2.2.1 = some row.2.2.1) := by
  decide +kernel

end Cutadapt.C08
