import Cutadapt.Properties.C01
import Cutadapt.Proofs.MatchSoundCut
/-! # C02 — admissible occurrences within the tolerance are found (completeness of `match_to`)

An *occurrence* (`Occ`) is stated in the documented vocabulary only: placement rule of the adapter type, minimum
overlap, edit distance `d` between the two intervals under the documented wildcard rules, `d` within the tolerance on
the non-N aligned adapter bases. The theorems rest on exactness of the banded DP (`Proofs/DpExact*.lean`). -/
namespace Cutadapt.C02
open Cutadapt Cutadapt.Align Cutadapt.Spec Cutadapt.Generated Cutadapt.Adapters Cutadapt.MatchSound Cutadapt.C01
open Cutadapt.Align.Exact

/-- adapter interval `[as, ae)` occurs in read interval `[rs, re)` with `d` errors, admissibly placed and within tolerance -/
def Occ (a : Adapter) (read : Bytes) (as ae rs re d : Nat) : Prop :=
  Placement (docType a.ty) a.seq.length read.length as ae rs re ∧
  a.minOverlap ≤ ae - as ∧
  (as ≤ ae ∧ ae ≤ a.seq.length ∧ rs ≤ re ∧ re ≤ read.length) ∧
  IsDist (docMatch a.adapterWildcards a.readWildcards) (indelCost a) (seg a.seq as ae) (seg read rs re) d ∧
  d ≤ a.thr (Spec.effLen a.adapterWildcards a.seq as ae)

/-- maximum error rate below 1: `⌊L·rate⌋ < L` for `L > 0` -/
def RateLtOne (a : Adapter) : Prop := a.thr 0 = 0 ∧ ∀ L, 0 < L → a.thr L < L

/-- adapter types whose aligner cannot skip the beginning of the adapter (`rightmostFront` runs on reversed strings) -/
def noRefSkip : AdapterType → Bool
  | .back | .nonInternalBack | .suffix | .prefix | .rightmostFront => true
  | _ => false

theorem occ_raw {a : Adapter} {read : Bytes} {as ae rs re d : Nat} (h : Occ a read as ae rs re d) :
    RawSound a.adapterWildcards a.readWildcards (indelCost a) a.thr a.minOverlap a.seq read as ae rs re d := by
  obtain ⟨_, hov, hb, ⟨⟨s, hl, hr, hc⟩, _⟩, htol⟩ := h
  exact ⟨hb, hov, ⟨s, hl, hr, Nat.le_of_eq hc⟩, htol⟩

theorem alignment_complete (a : Adapter) (read : Bytes) (h : AdapterWF a) (hmo : 1 ≤ a.minOverlap)
    {as ae rs re d : Nat} (hocc : Occ a read as ae rs re d)
    (hmode : d < indelCost a ∨ (a.indels = true ∧ noRefSkip a.ty = true ∧ RateLtOne a)) :
    alignment a read ≠ none := by
  have hraw := occ_raw hocc
  obtain ⟨hpl, _, hb, _, _⟩ := hocc
  obtain ⟨hup, hmono, hforce, hanch⟩ := h
  -- the mode of `locate_complete`: the aligner of a class may skip the start of the adapter unless `noRefSkip` holds
  have hmode' : ∀ flags, (alignerCfg a flags).startInRef = !noRefSkip a.ty →
      ((alignerCfg a flags).startInRef = false ∧ a.thr 0 = 0 ∧ ∀ L, 0 < L → a.thr L < L) ∨ d < indelCost a :=
    fun _ hf => hmode.symm.imp (fun ⟨_, hty, hrate⟩ => ⟨by rw [hf, hty]; rfl, hrate⟩) id
  obtain ⟨ty, seq, thr, mo, rw, aw, indels, force, name⟩ := a
  simp only at hup hmono hforce hanch hmo hraw hpl hb hmode hmode' ⊢
  subst hforce
  cases ty
  case anywhere =>
    exact locate_complete_doc _ whereAnywhere seq (read.map asciiUpper) rfl hup hmono hmo (RawSound.upperRead_iff.mpr hraw)
      (by rw [List.length_map]; exact (placement_iff_flags _ rfl ..).mpr hpl) (hmode' _ rfl)
  case rightmostFront =>
    -- the mirrored occurrence is a regular 3' occurrence in the reversed read
    obtain ⟨p1, p2⟩ := hpl
    have hloc := locate_complete_doc ⟨.rightmostFront, seq, thr, mo, rw, aw, indels, false, name⟩ whereBack
      seq.reverse read.reverse List.length_reverse (fun c hc => hup c (List.mem_reverse.mp hc)) hmono hmo hraw.toReverse
      ((placement_iff_flags _ (t := .regular3) rfl ..).mpr
        ⟨by omega, by rw [List.length_reverse, List.length_reverse]; omega⟩) (hmode' _ rfl)
    obtain ⟨⟨as', ae', rs', re', sc, e⟩, hl⟩ := Option.ne_none_iff_exists'.mp hloc
    rw [(alignment_rightmost rfl rfl).mpr ⟨_, _, _, _, hl, rfl, rfl, rfl, rfl⟩]
    exact Option.some_ne_none _
  -- anchored adapters without indels: the comparers
  case' «prefix» =>
    cases indels
    · obtain ⟨rfl, rfl, rfl⟩ := hpl
      exact comparePrefix_complete _ _ seq read hup (hanch rfl) hraw (hmode.resolve_right fun h => by cases h.1)
  case' suffix =>
    cases indels
    · obtain ⟨rfl, rfl, rfl⟩ := hpl
      exact compareSuffix_complete _ _ seq read hup (hanch rfl) hraw (hmode.resolve_right fun h => by cases h.1)
  -- every other class runs its aligner on adapter and read as they are; `simp only` puts the flag set of the class in
  all_goals
    rw [alignment_eq_locate read rfl rfl]
    simp only [flagsOf, Bool.false_eq_true, if_false]
    exact locate_complete_doc _ _ seq read rfl hup hmono hmo hraw ((placement_iff_flags _ rfl ..).mpr hpl) (hmode' _ rfl)

theorem matchTo_ne_none {a : Adapter} {read : Bytes} (h : alignment a read ≠ none) : matchTo a read ≠ none := by
  unfold matchTo
  split
  · next hn => exact absurd hn h
  · simp

/-- an error-free admissible occurrence is always reported (all eight types, indels on or off) -/
theorem exact_occurrence_found (a : Adapter) (read : Bytes) (h : AdapterWF a) (hmo : 1 ≤ a.minOverlap)
    (hocc : ∃ as ae rs re, Occ a read as ae rs re 0) : matchTo a read ≠ none := by
  obtain ⟨as, ae, rs, re, hocc⟩ := hocc
  exact matchTo_ne_none (alignment_complete a read h hmo hocc (.inl (indelCost_pos a)))

/-- with indels disabled every admissible occurrence within the tolerance is reported (all eight types) -/
theorem noindel_complete (a : Adapter) (read : Bytes) (h : AdapterWF a) (hmo : 1 ≤ a.minOverlap)
    (hi : a.indels = false) (hlen : a.seq.length < indelCostOff) (hthr : ∀ L, a.thr L ≤ L)
    (hocc : ∃ as ae rs re d, Occ a read as ae rs re d) : matchTo a read ≠ none := by
  obtain ⟨as, ae, rs, re, d, hocc⟩ := hocc
  refine matchTo_ne_none (alignment_complete a read h hmo hocc (.inl ?_))
  obtain ⟨_, _, ⟨_, b2, _, _⟩, _, htol⟩ := hocc
  exact errors_lt_indelCost a hi hlen hthr b2 htol

/-- with indels, every admissible occurrence within the tolerance is reported for the adapter types that cannot skip
    the beginning of the adapter (error rate below 1) -/
theorem indel_complete (a : Adapter) (read : Bytes) (h : AdapterWF a) (hmo : 1 ≤ a.minOverlap)
    (hi : a.indels = true) (hty : noRefSkip a.ty = true) (hrate : RateLtOne a)
    (hocc : ∃ as ae rs re d, Occ a read as ae rs re d) : matchTo a read ≠ none := by
  obtain ⟨as, ae, rs, re, d, hocc⟩ := hocc
  exact matchTo_ne_none (alignment_complete a read h hmo hocc (.inr ⟨hi, hty, hrate⟩))

/-- an encoded zero-cost script from a documented position-by-position match -/
theorem encoded_exact (a : Adapter) (flags : Nat) (hup : ∀ c ∈ a.seq, ¬ (97 ≤ c ∧ c ≤ 122)) (read : Bytes)
    (rs : Nat) (hrs : rs + a.seq.length ≤ read.length)
    (hex : hamming (docMatch a.adapterWildcards a.readWildcards) a.seq (seg read rs (rs + a.seq.length)) = 0) :
    ∃ s, lhs s = seg (encodeRef (alignerCfg a flags) a.seq) 0 a.seq.length ∧
      rhs s = seg (encodeQuery (alignerCfg a flags) read) rs (rs + a.seq.length) ∧
      cost (alignerCfg a flags).eq (alignerCfg a flags).indelCost s = 0 := by
  obtain ⟨s, hl, hr, hc⟩ := sub_script (docMatch a.adapterWildcards a.readWildcards) (indelCost a) a.seq
    (seg read rs (rs + a.seq.length)) (by rw [seg_length' _ _ _ hrs]; omega)
  exact (script_alignerCfg_iff a flags a.seq read hup _ _ _ _ (· = 0)).mpr
    ⟨s, by rw [hl, seg_zero_length], hr, by rw [hc, hex]⟩

theorem comparePrefix_exact (a : Adapter) (seq read : Bytes) (hmo : a.minOverlap = seq.length)
    (hmn : seq.length ≤ read.length)
    (hex : hamming (docMatch a.adapterWildcards a.readWildcards) seq (seg read 0 seq.length) = 0) :
    comparePrefix (cmpCfg a) seq read = some (0, seq.length, 0, seq.length, (seq.length : Int), 0) := by
  rw [comparePrefix_eq a seq read hmo, hex, if_pos ⟨hmn, Nat.zero_le _⟩]
  simp [matchScore, mismatchScore]

/-- an error-free copy of an anchored 5' adapter at the start of the read is removed exactly -/
theorem anchored5_exact_removed_exactly (a : Adapter) (read : Bytes) (h : AdapterWF a) (hty : a.ty = .prefix)
    (hm : 1 ≤ a.seq.length) (hmn : a.seq.length ≤ read.length)
    (hex : hamming (docMatch a.adapterWildcards a.readWildcards) a.seq (seg read 0 a.seq.length) = 0) :
    matchTo a read = some ⟨0, a.seq.length, 0, a.seq.length, (a.seq.length : Int), 0, true⟩ := by
  have hmo : a.minOverlap = a.seq.length := h.anchoredOverlap (by rw [hty]; rfl)
  have hal : alignment a read = some (0, a.seq.length, 0, a.seq.length, (a.seq.length : Int), 0) := by
    rw [alignment_prefix read hty]
    split
    · have hexE := encoded_exact a wherePrefix h.upper read 0 (by simpa using hmn) (by simpa using hex)
      rw [Nat.zero_add] at hexE
      exact locate_copy_at_start _ a.seq read (alignerCfg_wf a _ rfl h.thr_mono) rfl (Nat.le_of_eq hmo) hm hmn hexE
    · exact comparePrefix_exact a a.seq read hmo hmn hex
  rw [matchTo_of_alignment hal, hty]
  rfl

/-- an error-free copy of an anchored 3' adapter at the end of the read is removed exactly -/
theorem anchored3_exact_removed_exactly (a : Adapter) (read : Bytes) (h : AdapterWF a) (hty : a.ty = .suffix)
    (hm : 1 ≤ a.seq.length) (hmn : a.seq.length ≤ read.length)
    (hex : hamming (docMatch a.adapterWildcards a.readWildcards) a.seq
      (seg read (read.length - a.seq.length) read.length) = 0) :
    matchTo a read = some ⟨0, a.seq.length, read.length - a.seq.length, read.length, (a.seq.length : Int), 0, false⟩ := by
  have hmo : a.minOverlap = a.seq.length := h.anchoredOverlap (by rw [hty]; rfl)
  have hal : alignment a read
      = some (0, a.seq.length, read.length - a.seq.length, read.length, (a.seq.length : Int), 0) := by
    rw [alignment_suffix read hty]
    split
    · have hexE := encoded_exact a whereSuffix h.upper read (read.length - a.seq.length) (by omega)
        (by rw [Nat.sub_add_cancel hmn]; exact hex)
      rw [Nat.sub_add_cancel hmn] at hexE
      exact locate_copy_at_end _ a.seq read (alignerCfg_wf a _ rfl h.thr_mono) rfl rfl rfl (Nat.le_of_eq hmo) hm hmn hexE
    · -- the copy at the end of the read is a copy at the start of the reversed read
      have hrev := hamming_seg_reverse (docMatch a.adapterWildcards a.readWildcards) a.seq read
        (p := read.length - a.seq.length) (q := 0) (by omega)
      rw [Nat.zero_add, Nat.sub_add_cancel hmn, hex] at hrev
      have := comparePrefix_exact a a.seq.reverse read.reverse (by rw [List.length_reverse]; exact hmo)
        (by simpa using hmn) (by rw [List.length_reverse]; exact hrev)
      rw [List.length_reverse] at this
      exact compareSuffix_eq_some.mpr ⟨_, _, _, _, this, (Nat.sub_self _).symm, rfl, rfl, rfl⟩
  rw [matchTo_of_alignment hal, hty]
  rfl

/-- A regular 3' adapter is cut at or before the leftmost error-free full copy (so no such copy survives). -/
theorem back_cut_before_leftmost_copy (a : Adapter) (read : Bytes) (h : AdapterWF a) (hty : a.ty = .back)
    (hm : 1 ≤ a.seq.length) (hmo : a.minOverlap ≤ a.seq.length) {p : Nat} (hpn : p + a.seq.length ≤ read.length)
    (hcopy : hamming (docMatch a.adapterWildcards a.readWildcards) a.seq (seg read p (p + a.seq.length)) = 0)
    (hleast : ∀ p', p' < p →
      hamming (docMatch a.adapterWildcards a.readWildcards) a.seq (seg read p' (p' + a.seq.length)) ≠ 0) :
    ∃ mt, matchTo a read = some mt ∧ mt.rstart ≤ p := by
  obtain ⟨mt, hmt, hrs, _⟩ := regular_cut a read h.upper h.thr_mono h.noForce (.inl hty) hm hmo hpn hcopy hleast
  exact ⟨mt, hmt, hrs⟩

/-- A regular 5' adapter is cut at or before the end of the leftmost error-free full copy. -/
theorem front_cut_before_end_of_leftmost_copy (a : Adapter) (read : Bytes) (h : AdapterWF a) (hty : a.ty = .front)
    (hm : 1 ≤ a.seq.length) (hmo : a.minOverlap ≤ a.seq.length) {p : Nat} (hpn : p + a.seq.length ≤ read.length)
    (hcopy : hamming (docMatch a.adapterWildcards a.readWildcards) a.seq (seg read p (p + a.seq.length)) = 0)
    (hleast : ∀ p', p' < p →
      hamming (docMatch a.adapterWildcards a.readWildcards) a.seq (seg read p' (p' + a.seq.length)) ≠ 0) :
    ∃ mt, matchTo a read = some mt ∧ mt.rstop ≤ p + a.seq.length := by
  obtain ⟨mt, hmt, _, hre⟩ := regular_cut a read h.upper h.thr_mono h.noForce (.inr hty) hm hmo hpn hcopy hleast
  exact ⟨mt, hmt, hre⟩

/-- A rightmost 5' adapter is cut at or after the end of the rightmost error-free full copy. -/
theorem rightmost_cut_after_rightmost_copy (a : Adapter) (read : Bytes) (h : AdapterWF a)
    (hty : a.ty = .rightmostFront)
    (hm : 1 ≤ a.seq.length) (hmo : a.minOverlap ≤ a.seq.length) {p : Nat} (hpn : p + a.seq.length ≤ read.length)
    (hcopy : hamming (docMatch a.adapterWildcards a.readWildcards) a.seq (seg read p (p + a.seq.length)) = 0)
    (hlast : ∀ p', p < p' → p' + a.seq.length ≤ read.length →
      hamming (docMatch a.adapterWildcards a.readWildcards) a.seq (seg read p' (p' + a.seq.length)) ≠ 0) :
    ∃ mt, matchTo a read = some mt ∧ p + a.seq.length ≤ mt.rstop := by
  -- the rightmost copy is the leftmost copy of the reversed adapter in the reversed read
  obtain ⟨as, ae, rs, re, sc, e, hloc, hrs, _⟩ := locate_cut_doc a whereBack a.seq.reverse read.reverse
    List.length_reverse (fun c hc => h.upper c (List.mem_reverse.mp hc)) h.thr_mono rfl rfl
    (by rw [List.length_reverse]; exact hm) (by rw [List.length_reverse]; exact hmo)
    (p := read.length - p - a.seq.length) (by simp only [List.length_reverse]; omega)
    (by rw [List.length_reverse, hamming_seg_reverse _ _ _ (p := p) (by omega)]; exact hcopy)
    (fun q hq => by
      rw [List.length_reverse, hamming_seg_reverse _ _ _ (p := read.length - q - a.seq.length) (by omega)]
      exact hlast _ (by omega) (by omega))
  refine ⟨_, matchTo_of_alignment ((alignment_rightmost hty h.noForce).mpr ⟨_, _, _, _, hloc, rfl, rfl, rfl, rfl⟩), ?_⟩
  show p + a.seq.length ≤ read.length - rs
  omega

/-- every reported match is an occurrence in the sense of this file (C01 restated) -/
theorem occ_of_match (a : Adapter) (read : Bytes) (mt : SingleMatch) (h : AdapterWF a)
    (hlen : a.indels = false → isAnchored a.ty = true → a.seq.length < indelCostOff)
    (hm : matchTo a read = some mt) : Occ a read mt.astart mt.astop mt.rstart mt.rstop mt.errors := by
  have hs := matchTo_sound a read h mt hm
  exact ⟨hs.placement, hs.overlap, hs.bounds, matchTo_errors_is_distance a read mt h hlen hm, hs.tolerance⟩

/-- an occurrence with one error (a deleted adapter base) of the 3' adapter `ACGTACGTAC` in `TTACGTCGTACGG`, and the
    match that `indel_complete` promises -/
example : Occ (exAdapter .back [65,67,71,84,65,67,71,84,65,67] 3 false false true)
      [84,84,65,67,71,84,67,71,84,65,67,71,71] 0 10 2 11 1 ∧
    matchTo (exAdapter .back [65,67,71,84,65,67,71,84,65,67] 3 false false true)
      [84,84,65,67,71,84,67,71,84,65,67,71,71] = some ⟨0, 10, 2, 11, 7, 1, false⟩ ∧
    RateLtOne (exAdapter .back [65,67,71,84,65,67,71,84,65,67] 3 false false true) := by
  have hm : matchTo (exAdapter .back [65,67,71,84,65,67,71,84,65,67] 3 false false true)
      [84,84,65,67,71,84,67,71,84,65,67,71,71] = some ⟨0, 10, 2, 11, 7, 1, false⟩ := by decide +kernel
  refine ⟨occ_of_match _ _ _ (exAdapter_wf _ _ _ _ _ _ (by decide) (by decide)) (fun h => by cases h) hm, hm, rfl, ?_⟩
  intro L hL
  show L / 5 < L
  omega

/-- an occurrence with one mismatch of the anchored 5' adapter without indels -/
example : Occ (exAdapter .prefix [65,67,71,84,65,67,71,84,65,67] 10 false false false)
      [65,67,71,84,65,67,67,84,65,67,71,71,71] 0 10 0 10 1 :=
  occ_of_match _ _ ⟨0, 10, 0, 10, 8, 1, true⟩ (exAdapter_wf _ _ _ _ _ _ (by decide) (by decide)) (fun _ _ => by decide)
    (by decide +kernel)

end Cutadapt.C02
