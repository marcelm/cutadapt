import Cutadapt.Proofs.Scan
import Cutadapt.Proofs.Seg
import Cutadapt.Generated.QualWiring
/-! # C13 — quality trimming removes exactly the BWA-defined low-quality ends

Model: `Cutadapt.Qualtrim` (`quality_trim_index`, `nextseq_trim_index` of `src/cutadapt/qualtrim.pyx`).
All theorems hold for every quality string (any length, any bytes), all integer cutoffs and bases. -/
namespace Cutadapt.C13
open Cutadapt Cutadapt.Qualtrim

/-- `S d i = Σ_{t ≥ i} d_t` where `d_t = cutoff − quality_t`: minus the sum of (quality − cutoff) over the suffix. -/
def sufSum (d : List Int) (i : Nat) : Int := (d.drop i).sum

/-- the 3' scan, going down from the end, arrives at index `i` without stopping:
    no running sum of (quality − cutoff) over `t..n` with `t ≥ i` has become positive -/
def ReachBack (d : List Int) (i : Nat) : Prop := ∀ t, i ≤ t → t < d.length → 0 ≤ sufSum d t

theorem pre_reverse (d : List Int) (k : Nat) : pre d.reverse k = sufSum d (d.length - k) := by
  unfold pre sufSum
  rw [List.take_reverse, List.sum_reverse]

/-- Generic 3' statement for a list of values `d` (in read order): the index
    `n − bestPrefix d.reverse` is the **largest** index among `n` and the reachable indices that maximises the
    suffix sum `S` (equivalently: minimises Σ (quality − cutoff) over the suffix, shortest suffix on ties,
    scan stopped where the running sum becomes positive). -/
theorem back_spec (d : List Int) :
    let stop := d.length - bestPrefix d.reverse
    stop ≤ d.length ∧ ReachBack d stop ∧
    (∀ i, i ≤ d.length → ReachBack d i → sufSum d i ≤ sufSum d stop) ∧
    (∀ i, stop < i → i ≤ d.length → sufSum d i < sufSum d stop) := by
  have rev : ∀ t, t ≤ d.length → (Reach d.reverse t ↔ ReachBack d (d.length - t)) := fun t ht =>
    ⟨fun h u hu hun => by
      have := h (d.length - u) (Nat.sub_pos_of_lt hun) (by omega)
      rwa [pre_reverse, Nat.sub_sub_self (Nat.le_of_lt hun)] at this,
     fun h u hu1 hut => by
      have hu : u ≤ d.length := Nat.le_trans hut ht
      rw [pre_reverse]
      exact h (d.length - u) (Nat.sub_le_sub_left hut _) (Nat.sub_lt_self hu1 hu)⟩
  have h := bestPrefix_firstMax d.reverse
  rw [List.length_reverse] at h
  obtain ⟨h1, h2, h3, h4⟩ := h.reflect rev fun t _ => pre_reverse d t
  exact ⟨h1, h2, h3, fun i hsi hi => h4 i hsi hi fun t hit => h2 t (by omega)⟩

/-- **3' quality trimming** (`quality_trim_index`, second loop). -/
theorem trim3_spec (cutoff base : Int) (quals : Bytes) :
    let d := quals.map (dval cutoff base)
    let stop := trim3 cutoff base quals
    stop ≤ quals.length ∧ ReachBack d stop ∧
    (∀ i, i ≤ quals.length → ReachBack d i → sufSum d i ≤ sufSum d stop) ∧
    (∀ i, stop < i → i ≤ quals.length → sufSum d i < sufSum d stop) := by
  have := back_spec (quals.map (dval cutoff base))
  rwa [List.length_map] at this

/-- **5' quality trimming** (first loop): `start` is the smallest index among `0` and the reachable prefix lengths
    that maximises the prefix sum of `cutoff − quality`. -/
theorem trim5_spec (cutoff base : Int) (quals : Bytes) :
    let d := quals.map (dval cutoff base)
    let start := trim5 cutoff base quals
    start ≤ quals.length ∧ Reach d start ∧
    (∀ j, j ≤ quals.length → Reach d j → pre d j ≤ pre d start) ∧
    (∀ t, t < start → pre d t < pre d start) := by
  have := bestPrefix_spec (quals.map (dval cutoff base))
  rwa [List.length_map] at this

/-- the two results are combined into one interval, empty if they cross -/
theorem combine (quals : Bytes) (cf cb base : Int) :
    qualityTrimIndex quals cf cb base =
      if trim5 cf base quals < trim3 cb base quals then (trim5 cf base quals, trim3 cb base quals) else (0, 0) := by
  unfold qualityTrimIndex
  by_cases h : trim5 cf base quals < trim3 cb base quals
  · simp [h]; omega
  · simp [h]

/-- the reported interval always lies inside the read -/
theorem interval_in_read (quals : Bytes) (cf cb base : Int) :
    (qualityTrimIndex quals cf cb base).1 ≤ (qualityTrimIndex quals cf cb base).2 ∧
    (qualityTrimIndex quals cf cb base).2 ≤ quals.length := by
  rw [combine]
  have := (trim3_spec cb base quals).1
  split <;> simp <;> omega

theorem pre_nonpos_of_all_nonpos (d : List Int) (h : ∀ v ∈ d, v ≤ 0) (j : Nat) : pre d j ≤ 0 := by
  induction d generalizing j with
  | nil => simp [pre]
  | cons v vs ih =>
    cases j with
    | zero => simp
    | succ j =>
      rw [pre_cons]
      have := ih (fun w hw => h w (List.mem_cons_of_mem _ hw)) j
      have := h v (List.mem_cons_self)
      omega

theorem bestPrefix_zero_of_all_nonpos (d : List Int) (h : ∀ v ∈ d, v ≤ 0) : bestPrefix d = 0 := by
  refine Nat.eq_zero_of_not_pos fun hpos => ?_
  have := (bestPrefix_spec d).2.2.2 0 hpos
  have := pre_nonpos_of_all_nonpos d h (bestPrefix d)
  rw [pre_zero] at *; omega

theorem pre_pos_step (d : List Int) (h : ∀ v ∈ d, 0 < v) (j : Nat) (hj : j < d.length) : pre d j < pre d (j+1) := by
  have := h _ (List.getElem_mem hj)
  rw [pre_succ (List.drop_eq_getElem_cons hj)]; omega

theorem pre_pos_strict (d : List Int) (h : ∀ v ∈ d, 0 < v) (a b : Nat) (hab : a < b) (hb : b ≤ d.length) :
    pre d a < pre d b := by
  induction b with
  | zero => exact absurd hab (Nat.not_lt_zero _)
  | succ b ih =>
    have s := pre_pos_step d h b hb
    exact (Nat.lt_succ_iff_lt_or_eq.mp hab).elim (fun lt => Int.lt_trans (ih lt (Nat.le_of_succ_le hb)) s) (· ▸ s)

theorem bestPrefix_full_of_all_pos (d : List Int) (h : ∀ v ∈ d, 0 < v) : bestPrefix d = d.length := by
  obtain ⟨h1, _, h3, _⟩ := bestPrefix_spec d
  have hr : Reach d d.length := fun t ht1 ht => by
    have := pre_pos_strict d h 0 t ht1 ht
    rw [pre_zero] at this; omega
  refine Nat.le_antisymm h1 (Nat.le_of_not_lt fun hlt => ?_)
  have := h3 d.length (Nat.le_refl _) hr
  have := pre_pos_strict d h _ _ hlt (Nat.le_refl _)
  omega

/-- Reads whose qualities are all at or above both cutoffs are left unchanged (`read[start:stop] = read`). -/
theorem all_good_unchanged (quals : Bytes) (cf cb base : Int) (xs : List α) (hx : xs.length = quals.length)
    (hf : ∀ q ∈ quals, cf ≤ (q.toNat : Int) - base) (hb : ∀ q ∈ quals, cb ≤ (q.toNat : Int) - base) :
    seg xs (qualityTrimIndex quals cf cb base).1 (qualityTrimIndex quals cf cb base).2 = xs := by
  have nonpos : ∀ c, (∀ q ∈ quals, c ≤ (q.toNat : Int) - base) → ∀ v ∈ quals.map (dval c base), v ≤ 0 := fun c hc =>
    List.forall_mem_map.mpr fun q hq => by have := hc q hq; unfold dval; omega
  have h5 : trim5 cf base quals = 0 := bestPrefix_zero_of_all_nonpos _ (nonpos cf hf)
  have h3 : trim3 cb base quals = quals.length := by
    unfold trim3
    rw [bestPrefix_zero_of_all_nonpos _ fun v hv => nonpos cb hb v (List.mem_reverse.mp hv)]; rfl
  rw [combine, h5, h3]
  by_cases hn : 0 < quals.length
  · rw [if_pos hn, ← hx]; exact seg_zero_length xs
  · rw [if_neg hn, List.eq_nil_of_length_eq_zero (l := xs) (by omega)]; rfl

/-- Reads whose qualities are all below both cutoffs become empty. -/
theorem all_bad_empty (quals : Bytes) (cf cb base : Int)
    (hb : ∀ q ∈ quals, (q.toNat : Int) - base < cb) :
    qualityTrimIndex quals cf cb base = (0, 0) := by
  have h3 : trim3 cb base quals = 0 := by
    unfold trim3
    rw [bestPrefix_full_of_all_pos, List.length_reverse, List.length_map, Nat.sub_self]
    exact fun v hv => List.forall_mem_map.mpr (fun q hq => by have := hb q hq; unfold dval; omega) v (List.mem_reverse.mp hv)
  rw [combine, h3, if_neg (Nat.not_lt_zero _)]

/-- The quality base only shifts the scale: the result depends on the qualities only through `q − base`. -/
theorem base_shift_invariant (quals quals' : Bytes) (cf cb base base' : Int)
    (h : quals.map (fun q => (q.toNat : Int) - base) = quals'.map (fun q => (q.toNat : Int) - base')) :
    qualityTrimIndex quals cf cb base = qualityTrimIndex quals' cf cb base' := by
  have hl : quals.length = quals'.length := by
    have := congrArg List.length h; simpa using this
  have hd : ∀ c, quals.map (dval c base) = quals'.map (dval c base') := by
    intro c
    have := congrArg (List.map (fun x : Int => c - x)) h
    simp only [List.map_map, Function.comp_def] at this
    exact this
  unfold qualityTrimIndex trim5 trim3
  rw [hd cf, hd cb, hl]

/-- `--nextseq-trim` is the 3' procedure on values in which every `G` has quality `cutoff − 1`
    (value `cutoff − (cutoff − 1)`); other positions use their own quality. -/
theorem nextseq_vals (seq quals : Bytes) (cutoff base : Int) (i : Nat) (h1 : i < seq.length) (h2 : i < quals.length) :
    (nextseqVals seq quals cutoff base)[i]'(by simp [nextseqVals]; omega) =
      if seq[i] = 71 then cutoff - (cutoff - 1) else cutoff - ((quals[i].toNat : Int) - base) := by
  simp only [nextseqVals, List.getElem_zipWith, dval, beq_iff_eq]

theorem nextseq_spec (seq quals : Bytes) (cutoff base : Int) (hl : seq.length = quals.length) :
    let d := nextseqVals seq quals cutoff base
    let stop := nextseqTrimIndex seq quals cutoff base
    stop ≤ quals.length ∧ ReachBack d stop ∧
    (∀ i, i ≤ quals.length → ReachBack d i → sufSum d i ≤ sufSum d stop) ∧
    (∀ i, stop < i → i ≤ quals.length → sufSum d i < sufSum d stop) := by
  have := back_spec (nextseqVals seq quals cutoff base)
  rwa [length_nextseqVals cutoff base hl] at this

/-- The number of removed bases reported (`trimmed_bases += len(read) − (stop − start)`) equals the number of bases
    actually removed, i.e. `len(read) − len(read[start:stop])`. -/
theorem trimmed_bases_count (quals : Bytes) (cf cb base : Int) (xs : List α) (hx : xs.length = quals.length) :
    let r := qualityTrimIndex quals cf cb base
    (seg xs r.1 r.2).length = r.2 - r.1 ∧ r.2 - r.1 ≤ xs.length := by
  have hb := (interval_in_read quals cf cb base).2
  rw [← hx] at hb
  exact ⟨seg_length' xs _ _ hb, Nat.le_trans (Nat.sub_le _ _) hb⟩

theorem pre_drop (d : List Int) (s j : Nat) : pre (d.drop s) j = pre d (s + j) - pre d s := by
  unfold pre
  have h : d.take (s + j) = d.take s ++ (d.drop s).take j := by
    rw [List.take_add]
  rw [h, List.sum_append]; omega

/-- generic idempotence of the 5' scan: on what is left after removing the best prefix, the scan removes nothing -/
theorem front_idempotent (d : List Int) : bestPrefix (d.drop (bestPrefix d)) = 0 := by
  have h := bestPrefix_firstMax d
  have g := bestPrefix_firstMax (d.drop (bestPrefix d))
  rw [List.length_drop] at g
  generalize bestPrefix d = s at h g ⊢
  generalize bestPrefix (d.drop s) = s' at g ⊢
  refine Nat.eq_zero_of_not_pos fun hs' => ?_
  -- a cut at `s + s'` would be reachable in `d` and beat `s`
  have hpos := g.first 0 hs' (.zero _)
  rw [pre_drop, pre_drop, Nat.add_zero] at hpos
  have hs0 := h.adm.nonneg
  have hr : Reach d (s + s') := fun t ht1 ht2 => by
    by_cases hts : t ≤ s
    · exact h.adm t ht1 hts
    · have := g.adm (t - s) (Nat.sub_pos_of_lt (Nat.lt_of_not_le hts)) (Nat.sub_le_iff_le_add'.mpr ht2)
      rw [pre_drop, Nat.add_sub_cancel' (Nat.le_of_not_le hts)] at this; omega
  have := h.max (s + s') (Nat.add_le_of_le_sub' h.le g.le) hr
  omega

/-- **5' quality trimming is idempotent**: after `-q cutoff,0`-style 5' trimming, trimming the remaining read again at the 5' end with the same
    cutoff removes nothing — for every quality string, cutoff and base. -/
theorem trim5_idempotent (cutoff base : Int) (quals : Bytes) :
    trim5 cutoff base (quals.drop (trim5 cutoff base quals)) = 0 := by
  have := front_idempotent (quals.map (dval cutoff base))
  rwa [← List.map_drop] at this

example : trim5 10 33 [35,35,73,35,73,73] = 2 ∧ trim5 10 33 ([35,35,73,35,73,73].drop 2) = 0 := by decide +kernel

theorem sufSum_take (d : List Int) (s t : Nat) (hts : t ≤ s) (hs : s ≤ d.length) :
    sufSum (d.take s) t = sufSum d t - sufSum d s := by
  unfold sufSum
  have h : d.drop t = (d.take s).drop t ++ d.drop s := by
    have : d.drop t = (d.take s ++ d.drop s).drop t := by rw [List.take_append_drop]
    rw [this, List.drop_append_of_le_length (by rw [List.length_take, Nat.min_eq_left hs]; exact hts)]
  rw [h, List.sum_append]; omega

theorem sufSum_length (d : List Int) : sufSum d d.length = 0 := by simp [sufSum]

/-- generic idempotence of the 3' scan: on the kept prefix the scan keeps everything (from `back_spec` alone, i.e. it is a consequence
    of the BWA definition and of the tie rule "shortest removed suffix") -/
theorem back_idempotent (d : List Int) (stop : Nat) (hstop : stop = d.length - bestPrefix d.reverse) :
    (d.take stop).length - bestPrefix (d.take stop).reverse = stop := by
  -- the kept prefix, reversed, is what the 5' scan leaves of `d.reverse`
  have h : (d.take stop).reverse = d.reverse.drop (bestPrefix d.reverse) := by rw [hstop, List.drop_reverse]
  rw [h, front_idempotent, Nat.sub_zero, List.length_take, hstop]
  exact Nat.min_eq_left (Nat.sub_le _ _)

/-- **3' quality trimming is idempotent**: running `-q cutoff` on a read that was already trimmed with the same cutoff removes nothing
    more — for every quality string, cutoff and base. (A scan that restarted from a different position, compared with `≥` instead of `>`,
    or forgot the early stop would break this on reads with a good base between two bad stretches.) -/
theorem trim3_idempotent (cutoff base : Int) (quals : Bytes) :
    trim3 cutoff base (quals.take (trim3 cutoff base quals)) = trim3 cutoff base quals := by
  have := back_idempotent (quals.map (dval cutoff base)) (trim3 cutoff base quals) (by rw [List.length_map]; rfl)
  rwa [← List.map_take, List.length_map] at this

/-- the same for the NextSeq variant on the values it scans -/
theorem nextseq_idempotent (seq quals : Bytes) (cutoff base : Int) (hl : seq.length = quals.length) :
    nextseqTrimIndex (seq.take (nextseqTrimIndex seq quals cutoff base)) (quals.take (nextseqTrimIndex seq quals cutoff base)) cutoff base
      = nextseqTrimIndex seq quals cutoff base := by
  have := back_idempotent (nextseqVals seq quals cutoff base) (nextseqTrimIndex seq quals cutoff base)
    (by rw [length_nextseqVals cutoff base hl]; rfl)
  rwa [← nextseqVals_take, length_nextseqVals cutoff base (by rw [List.length_take, List.length_take, hl])] at this

example : trim3 10 33 [73,73,35,73,35,35] = 4 ∧ trim3 10 33 ([73,73,35,73,35,35].take 4) = 4 := by decide +kernel

/-! Non-vacuity: concrete runs. `"IIII#I##"` (cutoff 10, base 33): qualities 40,40,40,40,2,40,2,2. -/
example : qualityTrimIndex [73,73,73,73,35,73,35,35] 10 10 33 = (0, 6) := by decide +kernel
example : qualityTrimIndex [35,35,73,73] 10 10 33 = (2, 4) := by decide +kernel
example : nextseqTrimIndex [65,67,71,71] [73,73,73,73] 10 33 = 2 := by decide +kernel

/-! ## The quality-trimming options of the real program (regenerated from the working tree on every run) -/

/-- the cutoffs the documented notation gives the probe options: `-q X` = 3' cutoff X, `-q X,Y` = 5' cutoff X and 3' cutoff Y (the same for
    `-Q` on R2; `-q` alone applies to R2 as well), `--nextseq-trim X` -/
def probeOption : String → Option (Sum (Int × Int) Int)
  | "q10" => some (.inl (0, 10))
  | "q15_20" => some (.inl (15, 20))
  | "q0_12" => some (.inl (0, 12))
  | "q26" => some (.inl (0, 26))
  | "Q10" => some (.inl (0, 10))
  | "Q20_5" => some (.inl (20, 5))
  | "q15_as_R2" => some (.inl (0, 15))
  | "nextseq15" => some (.inr 15)
  | "nextseq28" => some (.inr 28)
  | "nextseq15_R2" => some (.inr 15)
  | _ => none

/-- what the model keeps of a probe (sequence, phred values) whose qualities are encoded with `base` -/
def modelKept (opt : String) (probe : List UInt8 × List Nat) (base : Nat) : Option (Nat × Nat) :=
  let quals : Bytes := probe.2.map (fun v => UInt8.ofNat (v + base))
  match probeOption opt with
  | some (.inl (f, b)) => some (qualityTrimIndex quals f b base)
  | some (.inr c) => some (if nextseqTrimIndex probe.1 quals c base = 0 then (0, 0) else (0, nextseqTrimIndex probe.1 quals c base))
  | none => none

/-- **Every quality-trimming option of the real program keeps the interval the BWA rule defines, for both quality encodings** (probe reads
    through the command-line program with `--quality-base 33` and `64`, `-q`/`-Q` with one and two cutoffs, `--nextseq-trim`, on R1 and on R2):
    the observed interval does not depend on the encoding and is what `qualityTrimIndex` / `nextseqTrimIndex` (to which `trim3_spec`,
    `trim5_spec`, `nextseq_spec` and `base_shift_invariant` apply) compute on the same phred values. -/
theorem generated_quality_wiring :
    ∀ row ∈ Generated.qualKept,
      row.2.2.1 = row.2.2.2 ∧
      (Generated.qualProbes[row.2.1]?).bind (modelKept row.1 · 33) = some row.2.2.1 ∧
      (Generated.qualProbes[row.2.1]?).bind (modelKept row.1 · 64) = some row.2.2.2 := by
  decide +kernel

end Cutadapt.C13
