import Cutadapt.Proofs.OrderStages
import Cutadapt.Generated.StageOrder
/-! # C10 — read modifications are applied in the documented fixed order

Model: `makeModsSingle` / `makeModsPaired` (the modifier part of `cli.make_pipeline_from_args` with its helpers
`make_unconditional_cutters`, `make_quality_trimmers`, `make_adapter_cutter`, `make_shortener`,
`modifiers_applying_to_both_ends_if_paired`), `runModsS` (the loop `for step in modifiers_and_steps`), `applyS`/`applyP`.
The option record `Opts` holds the values argparse produced, so the order of options on the command line is not even visible
to the assembly, except for the lists `-u`/`-U` and `--strip-suffix`, whose order is kept.
The generated file `Cutadapt.Generated.StageOrder` (class names of `pipeline._modifiers`/`_steps` built by the real
`make_pipeline_from_args`) ties the hand-written assembly model to the code on every run. -/
namespace Cutadapt.C10
open Cutadapt

/-- **`makeModsSingle` = the documented stages, each present iff its option is**:
    `cuts ++ nextseq? ++ qtrim? ++ adapterStage? ++ polyA? ++ shorten? ++ trimN? ++ lengthTag? ++ stripSuffixes ++ prefixSuffix? ++ zeroCap? ++ rename?`
    (`documentedSingle`, written out once in `Proofs/OrderStages.lean`). -/
theorem makeMods_is_documented_composition (o : Opts) (ads : List Matchable) (l : List SMod)
    (h : makeModsSingle o ads = .ok l) :
    l = cutStage o.cut ++ nextseqStage o ++ qtrimStage o.qualityCutoff o.qualityBase ++
        adapterStage o ads (cutStage o.cut ++ nextseqStage o ++ qtrimStage o.qualityCutoff o.qualityBase).isEmpty ++
        polyAStage o ++ shortenStage o ++ trimNStage o ++ lengthTagStage o ++ stripSuffixStage o ++ prefixSuffixStage o ++
        zeroCapStage o ++ renameStage o :=
  eq_documentedSingle_of_ok h

/-- the assembly succeeds exactly when `-u` is used at most twice with different signs and no rejected option combination
    (`--pair-adapters` without paired input, `--action retain/crop` with `--times > 1`, `--rename` with `-x`/`-y`) is present -/
theorem makeModsSingle_ok_iff (o : Opts) (ads : List Matchable) :
    (∃ l, makeModsSingle o ads = .ok l) ↔
      ((o.cut.length ≤ 2 ∧ ¬ (o.cut.length = 2 ∧ o.cut[0]! * o.cut[1]! > 0)) ∧ rejectedSingle o ads = false) := by
  rw [makeModsSingle_eq, ← cutMods_ok_iff]
  cases hc : cutMods o.cut with
  | error e => simp
  | ok c => cases hr : rejectedSingle o ads <;> simp

/-- **every step sees exactly the output of the previous one**: running a concatenation of modifier lists is the left-to-right
    Kleisli composition — read, modification info and event log of the first part are the input of the second -/
theorem runModsS_append (names : Names) (a b : List SMod) (r : Read) (i : Info) (evs : List Event) :
    runModsS names (a ++ b) r i evs =
      (runModsS names a r i evs).bind (fun (r', i', e') => runModsS names b r' i' e') := by
  induction a generalizing r i evs with
  | nil => rfl
  | cons m ms ih =>
    simp only [List.cons_append, runModsS]
    cases applyS names 0 m r i with
    | error e => rfl
    | ok t => obtain ⟨r', i', e'⟩ := t; exact ih r' i' _

/-- one step: the modifier is applied to the current read and info; its events are appended to the log -/
theorem runModsS_cons (names : Names) (m : SMod) (ms : List SMod) (r : Read) (i : Info) (evs : List Event) :
    runModsS names (m :: ms) r i evs =
      (applyS names 0 m r i).bind (fun (r', i', e') => runModsS names ms r' i' (evs ++ e')) := by
  simp only [runModsS]
  cases applyS names 0 m r i with
  | error e => rfl
  | ok t => rfl

theorem runModsP_append (a1 a2 : List Matchable) (a b : List PMod) (r : Read × Read) (i : Info × Info) (evs : List Event) :
    runModsP a1 a2 (a ++ b) r i evs =
      (runModsP a1 a2 a r i evs).bind (fun (r', i', e') => runModsP a1 a2 b r' i' e') := by
  induction a generalizing r i evs with
  | nil => rfl
  | cons m ms ih =>
    simp only [List.cons_append, runModsP]
    cases applyP a1 a2 m r i with
    | error e => rfl
    | ok t => obtain ⟨r', i', e'⟩ := t; exact ih r' i' _

/-- **Single-end: the modifiers are in the documented order**, whatever the options are -/
theorem stage_order_single (o : Opts) (ads : List Matchable) (l : List SMod) (h : makeModsSingle o ads = .ok l) :
    l.Pairwise (fun a b => stageRank a ≤ stageRank b) := by
  rw [eq_documentedSingle_of_ok h, documentedSingle_eq_blocks]
  exact rankSorted_flatMap stageRank (stagesSingle_ranked o ads)
    (by decide : List.Pairwise (· ≤ ·) [0, 1, 2, 3, 4, 5, 6, 7, 8, 9, 10, 10])

def cutOf : SMod → Option Int
  | .cut n => some n
  | _ => none
def stripSuffixOf : SMod → Option Bytes
  | .stripSuffix s => some s
  | _ => none

theorem filterMap_nil_of_rank {f : SMod → Option β} (r : Nat) (hf : ∀ m, (f m).isSome → stageRank m = r) (l : List SMod)
    (r' : Nat) (hl : ∀ b ∈ l, stageRank b = r') (hne : r' ≠ r) : l.filterMap f = [] :=
  filterMap_eq_nil_of_rank stageRank hf hl hne

theorem cutOf_rank : ∀ m, (cutOf m).isSome → stageRank m = 0 := by
  intro m h
  cases m with
  | cut n => rfl
  | _ => cases h
theorem stripSuffixOf_rank : ∀ m, (stripSuffixOf m).isSome → stageRank m = 8 := by
  intro m h
  cases m with
  | stripSuffix s => rfl
  | _ => cases h

/-- **`-u` values are applied in the order given** (a value 0 is dropped), and nothing else is an unconditional cut -/
theorem cuts_in_given_order (o : Opts) (ads : List Matchable) (l : List SMod) (h : makeModsSingle o ads = .ok l) :
    l.filterMap cutOf = o.cut.filter (· != 0) := by
  rw [eq_documentedSingle_of_ok h, documentedSingle_eq_blocks, filterMap_flatMap_of_rank stageRank cutOf_rank (stagesSingle_ranked o ads)]
  simp [stagesSingle, cutStage, List.filterMap_map, Function.comp_def, cutOf]

/-- **`--strip-suffix` values are applied in the order given** -/
theorem strip_suffixes_in_given_order (o : Opts) (ads : List Matchable) (l : List SMod) (h : makeModsSingle o ads = .ok l) :
    l.filterMap stripSuffixOf = o.stripSuffix := by
  rw [eq_documentedSingle_of_ok h, documentedSingle_eq_blocks,
    filterMap_flatMap_of_rank stageRank stripSuffixOf_rank (stagesSingle_ranked o ads)]
  simp [stagesSingle, stripSuffixStage, List.filterMap_map, Function.comp_def, stripSuffixOf]

theorem renderTok_name_only (names : Names) (r r' : Read) (info : Info) (h : r.name = r'.name) (t : Tok) :
    renderTok names r info t = renderTok names r' info t := by
  unfold renderTok
  -- a placeholder either does not look at the read, or only at its name
  split <;> first | rfl | rw [h]

/-- **`--zero-cap` touches only the qualities, `--rename` only the name (and reads only name and info)**: applying them in either
    order gives the same read, info and events — the documented "renaming and zero-capping" group is order-independent -/
theorem rename_zeroCap_commute (names : Names) (side base : Nat) (tmpl : List Tok) (read : Read) (info : Info) :
    ((applyS names side (.zeroCap base) read info).bind fun (r1, i1, e1) =>
      (applyS names side (.rename tmpl) r1 i1).bind fun (r2, i2, e2) => .ok (r2, i2, e1 ++ e2)) =
    ((applyS names side (.rename tmpl) read info).bind fun (r1, i1, e1) =>
      (applyS names side (.zeroCap base) r1 i1).bind fun (r2, i2, e2) => .ok (r2, i2, e1 ++ e2)) := by
  simp only [applyS, Except.bind]
  have : renderTok names { read with qual := read.qual.map (fun q => q.map (fun c => if c.toNat < base then base.toUInt8 else c)) } info
      = renderTok names read info := by
    funext t
    exact renderTok_name_only names _ _ info rfl t
  rw [this]
  cases List.mapM (renderTok names read info) tmpl with
  | error e => rfl
  | ok parts => rfl

/-- **`makeModsPaired` = the documented stages with the documented routing** (`documentedPaired`): `-u` on R1 only, `-U` on R2 only, NextSeq
    trimming on both, the quality trimmers `qR1`/`qR2`, the adapter stage, poly-A (R1) / poly-T (R2), `--length`/`-L`, the
    both-end modifiers on both reads, the paired renamer -/
theorem routing (o : Opts) (ads1 ads2 : List Matchable) (l : List PMod) (h : makeModsPaired o ads1 ads2 = .ok l) :
    l = (cutStage o.cut).map onR1 ++ (cutStage o.cut2).map onR2 ++
        (nextseqStage o).map onBoth ++
        (if (qR1 o).isSome || (qR2 o).isSome then [.wrap (qR1 o) (qR2 o)] else []) ++
        adapterStageP o ads1 ads2 ((cutStage o.cut).isEmpty && o.nextseqTrim.isNone && (qR1 o).isNone)
          ((cutStage o.cut2).isEmpty && o.nextseqTrim.isNone && (qR2 o).isNone) ++
        (if o.polyA then [.wrap (some (.polyA false)) (some (.polyA true))] else []) ++
        shortenStageP o ++
        (bothEndMods o).map onBoth ++
        (match o.rename with | some t => [.pairedRename t t] | none => []) :=
  eq_documentedPaired_of_ok h

/-- `-q` without `-Q`: the same trimmer on both reads; with `-Q`: each read its own; `-Q 0`: no R2 trimmer while R1 keeps its own -/
theorem routing_quality (o : Opts) :
    (o.qualityCutoff2 = none → qR2 o = qR1 o) ∧
    (∀ a b, o.qualityCutoff2 = some (some (a, b)) → qR2 o = some (.qtrim a b o.qualityBase)) ∧
    (o.qualityCutoff2 = some none → qR2 o = none) ∧
    (∀ a b, o.qualityCutoff = some (some (a, b)) → qR1 o = some (.qtrim a b o.qualityBase)) ∧
    (o.qualityCutoff = none ∨ o.qualityCutoff = some none → qR1 o = none) := by
  refine ⟨?_, ?_, ?_, ?_, ?_⟩
  · intro h; simp [qR2, h]
  · intro a b h; simp [qR2, h, qtrimOf]
  · intro h; simp [qR2, h, qtrimOf]
  · intro a b h; simp [qR1, h, qtrimOf]
  · intro h; rcases h with h | h <;> simp [qR1, h, qtrimOf]

/-- `--length` without `-L` on both reads, `-L` alone on R2 only, both: each read its own -/
theorem routing_length (o : Opts) :
    (∀ a, o.length = some a → o.length2 = none → shortenStageP o = [onBoth (.shorten a)]) ∧
    (∀ b, o.length = none → o.length2 = some b → shortenStageP o = [onR2 (.shorten b)]) ∧
    (∀ a b, o.length = some a → o.length2 = some b → shortenStageP o = [.wrap (some (.shorten a)) (some (.shorten b))]) ∧
    (o.length = none → o.length2 = none → shortenStageP o = []) := by
  refine ⟨?_, ?_, ?_, ?_⟩ <;> intros <;> simp [shortenStageP, onBoth, onR2, *]

/-- adapters: `-a`, `-g`, `-b` (`ads1`) make the R1 cutter, `-A`, `-G`, `-B` (`ads2`) the R2 cutter (no cutter for an empty list) -/
theorem routing_adapters (o : Opts) (ads1 ads2 : List Matchable) (f1 f2 : Bool) (hp : o.pairAdapters = false)
    (hr : o.revcomp = false) (hne : ads1 ≠ [] ∨ ads2 ≠ []) :
    adapterStageP o ads1 ads2 f1 f2 =
      [.wrap (if ads1 = [] then none else some (.adapters ⟨ads1, o.times, o.action⟩ f1))
             (if ads2 = [] then none else some (.adapters ⟨ads2, o.times, o.action⟩ f2))] :=
  adapterStageP_eq o ads1 ads2 f1 f2 hp hr hne

/-- **`PairedEndRenamer`, what a successful call does**: the ids of the two incoming names match; each read is renamed with the same
    template, R1 with its own fields and `{rn}` = 1, R2 with its own fields and `{rn}` = 2, `{r1.x}`/`{r2.x}` taking R1's/R2's field in
    both names; the ids of the new names match again; bases, qualities, the `ModificationInfo`s are untouched and nothing is counted. -/
theorem paired_rename_spec (a1 a2 : List Matchable) (t1 t2 : List Tok) (r1 r2 o1 o2 : Read) (i1 i2 j1 j2 : Info) (evs : List Event)
    (h : applyP a1 a2 (.pairedRename t1 t2) (r1, r2) (i1, i2) = .ok ((o1, o2), (j1, j2), evs)) :
    recordNamesMatch r1.name r2.name = true ∧
    ∃ n1 n2, t1.mapM (renderPairedTok 1 (renameFields (namesOf a1) r1 i1) (renameFields (namesOf a1) r1 i1) (renameFields (namesOf a2) r2 i2)) = .ok n1 ∧
             t2.mapM (renderPairedTok 2 (renameFields (namesOf a2) r2 i2) (renameFields (namesOf a1) r1 i1) (renameFields (namesOf a2) r2 i2)) = .ok n2 ∧
             recordNamesMatch n1.flatten n2.flatten = true ∧
             o1 = { r1 with name := n1.flatten } ∧ o2 = { r2 with name := n2.flatten } ∧ j1 = i1 ∧ j2 = i2 ∧ evs = [] := by
  simp only [applyP] at h
  split at h
  · simp at h
  · rename_i hm
    split at h
    · rename_i n1 n2 h1 h2
      split at h
      · simp at h
      · rename_i hm2
        simp only [Except.ok.injEq, Prod.mk.injEq] at h
        obtain ⟨⟨rfl, rfl⟩, ⟨rfl, rfl⟩, rfl⟩ := h
        refine ⟨by simpa using hm, n1, n2, h1, h2, by simpa using hm2, rfl, rfl, rfl, rfl, rfl⟩
    · simp at h
    · simp at h

/-- what the placeholders of a paired template stand for -/
theorem paired_rename_placeholders (rn : Nat) (own d1 d2 : RenameFields) :
    renderPairedTok rn own d1 d2 (.var "id") = .ok own.id ∧
    renderPairedTok rn own d1 d2 (.var "rn") = .ok (natToBytes rn) ∧
    renderPairedTok rn own d1 d2 (.var "comment") = .ok own.comment ∧
    renderPairedTok rn own d1 d2 (.var "adapter_name") = .ok own.adapterName ∧
    renderPairedTok rn own d1 d2 (.var "r1.comment") = .ok d1.comment ∧
    renderPairedTok rn own d1 d2 (.var "r2.comment") = .ok d2.comment ∧
    renderPairedTok rn own d1 d2 (.var "r1.adapter_name") = .ok d1.adapterName ∧
    renderPairedTok rn own d1 d2 (.var "r2.adapter_name") = .ok d2.adapterName ∧
    renderPairedTok rn own d1 d2 (.var "r1.cut_prefix") = .ok d1.cutPrefix ∧
    renderPairedTok rn own d1 d2 (.var "r2.match_sequence") = .ok d2.matchSequence :=
  ⟨rfl, rfl, rfl, rfl, rfl, rfl, rfl, rfl, rfl, rfl⟩

/-- every placeholder that `PairedEndRenamer` accepts is rendered (no `KeyError` at run time), and `{rc}` / `{r1.id}` are not accepted -/
theorem paired_rename_variables_total :
    (pairedRenamerVariables.all fun v =>
      (renderPairedTok 1 ⟨[], [], [], [], [], [], []⟩ ⟨[], [], [], [], [], [], []⟩ ⟨[], [], [], [], [], [], []⟩ (.var v)).toOption.isSome) = true ∧
    renameVarsOK true [.var "rc"] = false ∧ renameVarsOK true [.var "r1.id"] = false ∧ renameVarsOK false [.var "rn"] = false ∧
    renameVarsOK true [.var "id", .lit [32], .var "r2.adapter_name", .var "rn"] = true := by
  decide +kernel

/-- `record_names_match` ignores the comment and a final mate digit 1/2/3 on both ids; it is reflexive -/
theorem recordNamesMatch_refl (n : Bytes) : recordNamesMatch n n = true := by
  unfold recordNamesMatch
  simp only [bne_self_eq_false, Bool.false_eq_true, ↓reduceIte]
  cases (recordId n).getLast? <;> simp

/-- `r1/1 x` ~ `r1/2 y`;  `r14` ≁ `r11`;  `ab` ≁ `ab1` -/
example : recordNamesMatch [114, 49, 47, 49, 32, 120] [114, 49, 47, 50, 32, 121] = true ∧ recordNamesMatch [114, 49, 52] [114, 49, 49] = false ∧
    recordNamesMatch [97, 98] [97, 98, 49] = false := by decide +kernel

/-- a modifier routed to R1 only leaves R2 and its info untouched … -/
theorem onR1_leaves_R2 (a1 a2 : List Matchable) (m : SMod) (r1 r2 r1' r2' : Read) (i1 i2 i1' i2' : Info) (evs : List Event)
    (h : applyP a1 a2 (onR1 m) (r1, r2) (i1, i2) = .ok ((r1', r2'), (i1', i2'), evs)) :
    r2' = r2 ∧ i2' = i2 ∧ applyS (namesOf a1) 0 m r1 i1 = .ok (r1', i1', evs) := by
  simp only [onR1, applyP, bind, Except.bind, pure, Except.pure] at h
  cases hs : applyS (namesOf a1) 0 m r1 i1 with
  | error e => simp [hs] at h
  | ok t =>
    obtain ⟨x, y, z⟩ := t
    simp [hs] at h
    obtain ⟨⟨rfl, rfl⟩, ⟨rfl, rfl⟩, rfl⟩ := h
    exact ⟨rfl, rfl, rfl⟩

/-- … and symmetrically -/
theorem onR2_leaves_R1 (a1 a2 : List Matchable) (m : SMod) (r1 r2 r1' r2' : Read) (i1 i2 i1' i2' : Info) (evs : List Event)
    (h : applyP a1 a2 (onR2 m) (r1, r2) (i1, i2) = .ok ((r1', r2'), (i1', i2'), evs)) :
    r1' = r1 ∧ i1' = i1 ∧ applyS (namesOf a2) 1 m r2 i2 = .ok (r2', i2', evs) := by
  simp only [onR2, applyP, bind, Except.bind, pure, Except.pure] at h
  cases hs : applyS (namesOf a2) 1 m r2 i2 with
  | error e => simp [hs] at h
  | ok t =>
    obtain ⟨x, y, z⟩ := t
    simp [hs] at h
    obtain ⟨⟨rfl, rfl⟩, ⟨rfl, rfl⟩, rfl⟩ := h
    exact ⟨rfl, rfl, rfl⟩

/-- a wrapped pair of modifiers acts on each read separately: R1 sees only R1, R2 only R2 -/
theorem wrap_acts_sidewise (a1 a2 : List Matchable) (m1 m2 : SMod) (r1 r2 r1' r2' : Read) (i1 i2 i1' i2' : Info) (evs : List Event)
    (h : applyP a1 a2 (.wrap (some m1) (some m2)) (r1, r2) (i1, i2) = .ok ((r1', r2'), (i1', i2'), evs)) :
    ∃ e1 e2, applyS (namesOf a1) 0 m1 r1 i1 = .ok (r1', i1', e1) ∧ applyS (namesOf a2) 1 m2 r2 i2 = .ok (r2', i2', e2) ∧
      evs = e1 ++ e2 := by
  simp only [applyP, bind, Except.bind, pure, Except.pure] at h
  cases hs : applyS (namesOf a1) 0 m1 r1 i1 with
  | error e => simp [hs] at h
  | ok t =>
    obtain ⟨x, y, z⟩ := t
    cases hs2 : applyS (namesOf a2) 1 m2 r2 i2 with
    | error e => simp [hs, hs2] at h
    | ok t2 =>
      obtain ⟨x2, y2, z2⟩ := t2
      simp [hs, hs2] at h
      obtain ⟨⟨rfl, rfl⟩, ⟨rfl, rfl⟩, rfl⟩ := h
      exact ⟨_, _, rfl, rfl, rfl⟩

theorem pRank_onR1 (m : SMod) : pRank (onR1 m) = stageRank m := rfl
theorem pRank_onR2 (m : SMod) : pRank (onR2 m) = stageRank m := rfl
theorem pRank_onBoth (m : SMod) : pRank (onBoth m) = stageRank m := rfl

/-- **Paired-end: the modifiers are in the documented order** -/
theorem stage_order_paired (o : Opts) (ads1 ads2 : List Matchable) (l : List PMod) (h : makeModsPaired o ads1 ads2 = .ok l) :
    l.Pairwise (fun a b => pRank a ≤ pRank b) := by
  rw [eq_documentedPaired_of_ok h, documentedPaired_eq_blocks]
  exact rankSorted_flatMap pRank (stagesPaired_ranked o ads1 ads2)
    (by decide : List.Pairwise (· ≤ ·) [0, 0, 1, 2, 3, 4, 5, 6, 7, 8, 9, 10, 10])

/-! ## Generated stage order (from the real `make_pipeline_from_args`) -/

def className : SMod → String
  | .cut _ => "UnconditionalCutter"
  | .nextseq _ _ => "NextseqQualityTrimmer"
  | .qtrim _ _ _ => "QualityTrimmer"
  | .adapters _ _ => "AdapterCutter"
  | .revcomp _ _ _ => "ReverseComplementer"
  | .polyA _ => "PolyATrimmer"
  | .shorten _ => "Shortener"
  | .trimN => "NEndTrimmer"
  | .lengthTag _ => "LengthTagModifier"
  | .stripSuffix _ => "SuffixRemover"
  | .prefixSuffix _ _ => "PrefixSuffixAdder"
  | .zeroCap _ => "ZeroCapper"
  | .rename _ => "Renamer"

def pClassName : PMod → String × String
  | .wrap m1 m2 => ((m1.map className).getD "None", (m2.map className).getD "None")
  | .pairedRevcomp .. => ("PairedReverseComplementer", "PairedReverseComplementer")
  | .pairAdapters .. => ("PairedAdapterCutter", "PairedAdapterCutter")
  | .pairedRename .. => ("PairedEndRenamer", "PairedEndRenamer")

def stepName (paired : Bool) : Step → String
  | .restWriter _ => "RestFileWriter"
  | .infoWriter _ => "InfoFileWriter"
  | .wildcardWriter _ => "WildcardFileWriter"
  | .sink _ => if paired then "PairedEndSink" else "SingleEndSink"
  | .demux _ _ => if paired then "PairedDemultiplexer" else "Demultiplexer"
  | .combDemux _ => "CombinatorialDemultiplexer"
  | s => (Step.filterIdent s).getD ""

/-- the `-a A=ACGT` / `-A B=TTTT` adapters of the generator's command lines -/
def exAdapter (seq : Bytes) (name : String) : Matchable :=
  .single { ty := .back, seq := seq, thr := (fun L => L / 10), minOverlap := 3, readWildcards := false, adapterWildcards := false,
            indels := true, name := name }

/-- `-u 1 -u -1 --nextseq-trim 10 -q 10,10 -a A=ACGT --poly-a -l 10 --trim-n --length-tag length= --strip-suffix x -x P --zero-cap` -/
def exOpts : Opts :=
  { cut := [1, -1], nextseqTrim := some 10, qualityCutoff := some (some (10, 10)), polyA := true, length := some 10, trimN := true,
    lengthTag := some [108, 101, 110, 103, 116, 104, 61], stripSuffix := [[120]], pfx := [80], zeroCap := true }
/-- … with `--rename '{id} x'` instead of `-x P` -/
def exOptsRename : Opts :=
  { exOpts with pfx := [], rename := some [.var "id", .lit [32, 120]], renameGiven := true }
/-- … paired-end: additionally `-U 2 -U -2 -Q 5,5 -A B=TTTT -L 8` -/
def exOptsPaired (o : Opts) : Opts :=
  { o with paired := true, cut2 := [2, -2], qualityCutoff2 := some (some (5, 5)), length2 := some 8, pairedOutput := some "out2" }
/-- `--info-file … --rest-file … --wildcard-file … -m 1 -M 100 --max-n 1 --max-ee 1 --max-aer 0.5 --discard-casava --discard-untrimmed` -/
def exOptsSteps : Opts :=
  { restFile := some "rest", infoFile := some "info", wildcardFile := some "wild", minLen := some (some 1, none),
    maxLen := some (some 100, none), maxN := some 1, maxEE := some 1, maxAER := some 0.5, discardCasava := true, discardUntrimmed := true }

def namesOfMods (r : Except Err (List SMod)) : List String := match r with | .ok l => l.map className | .error _ => ["error"]
def namesOfPMods (r : Except Err (List PMod)) : List (String × String) := match r with | .ok l => l.map pClassName | .error _ => [("error", "error")]
def namesOfSteps (paired : Bool) (r : Except Err (List Step × Files)) : List String :=
  match r with | .ok (l, _) => l.map (stepName paired) | .error _ => ["error"]

/-- **The order in which the real `make_pipeline_from_args` puts the modifiers is the documented one** (regenerated from the working
    tree on every run) … -/
theorem generated_stage_order_is_documented :
    Generated.stageOrderSingle =
      ["UnconditionalCutter", "UnconditionalCutter", "NextseqQualityTrimmer", "QualityTrimmer", "AdapterCutter", "PolyATrimmer",
       "Shortener", "NEndTrimmer", "LengthTagModifier", "SuffixRemover", "PrefixSuffixAdder", "ZeroCapper"] ∧
    Generated.stageOrderSingleRename =
      ["UnconditionalCutter", "UnconditionalCutter", "NextseqQualityTrimmer", "QualityTrimmer", "AdapterCutter", "PolyATrimmer",
       "Shortener", "NEndTrimmer", "LengthTagModifier", "SuffixRemover", "ZeroCapper", "Renamer"] :=
  ⟨rfl, rfl⟩

/-- the documented meaning of a list of `-u` values, one after the other, each on what the previous one left: a positive value removes that
    many bases from the 5' end (they become `{cut_prefix}`), a negative one from the 3' end (`{cut_suffix}`), zero does nothing -/
def cutsSequentially : List Int → Bytes × Bytes × Bytes → Bytes × Bytes × Bytes
  | [], st => st
  | c :: cs, (pre, suf, s) =>
    if c > 0 then cutsSequentially cs (s.take c.toNat, suf, s.drop c.toNat)
    else if c < 0 then cutsSequentially cs (pre, s.drop (s.length - c.natAbs), s.take (s.length - c.natAbs))
    else cutsSequentially cs (pre, suf, s)

/-- **The real program applies the `-u`/`-U` cuts one after the other in the order given** (observed on the working tree: probe reads through
    the command-line program, removed pieces read off `{cut_prefix}`/`{cut_suffix}`, rest off the output record; `-U` on R2 of a pair) … -/
theorem generated_cuts_in_given_order :
    (∀ row ∈ Generated.cutProbes, (row.2.2.1, row.2.2.2.1, row.2.2.2.2) = cutsSequentially row.1 ([], [], row.2.1)) ∧
    (∀ row ∈ Generated.cutProbesR2, (row.2.2.1, row.2.2.2.1, row.2.2.2.2) = cutsSequentially row.1 ([], [], row.2.1)) := by
  decide +kernel

theorem pySlice_from_pos (xs : List α) (n : Int) (h : 0 < n) : pySlice xs (some n) none = xs.drop n.toNat := by
  unfold pySlice normBound seg
  simp only [if_neg (Int.not_lt.2 (Int.le_of_lt h)), List.take_length]
  exact List.drop_eq_drop_min.symm

theorem pySlice_to_pos (xs : List α) (n : Int) (h : 0 < n) : pySlice xs none (some n) = xs.take n.toNat := by
  unfold pySlice normBound seg
  simp only [if_neg (Int.not_lt.2 (Int.le_of_lt h)), List.drop_zero]
  exact List.take_eq_take_min.symm

theorem pySlice_to_neg (xs : List α) (n : Int) (h : n < 0) : pySlice xs none (some n) = xs.take (xs.length - n.natAbs) := by
  unfold pySlice normBound seg
  simp only [h, if_true, List.drop_zero]
  congr 1
  omega

theorem pySlice_from_neg (xs : List α) (n : Int) (h : n < 0) : pySlice xs (some n) none = xs.drop (xs.length - n.natAbs) := by
  unfold pySlice normBound seg
  simp only [h, if_true, List.take_length]
  congr 1
  omega

/-- **What the documentation says about a list of `-u` values holds of the model for every list and every read**: the cut modifiers that the
    assembly builds from the values, run one after the other, leave exactly `cutsSequentially` — the remaining sequence, and the last removed 5'
    and 3' pieces as `{cut_prefix}` / `{cut_suffix}` (zero values do nothing). `generated_cuts_in_given_order` shows the same function on the
    program's probe runs. -/
theorem model_cuts_are_sequential (names : Names) (cs : List Int) (read : Read) (info : Info) (evs : List Event) :
    ∃ r' i', runModsS names ((cs.filter (· != 0)).map SMod.cut) read info evs = .ok (r', i', evs) ∧
      (i'.cutPrefix.getD [], i'.cutSuffix.getD [], r'.seq) =
        cutsSequentially cs (info.cutPrefix.getD [], info.cutSuffix.getD [], read.seq) := by
  induction cs generalizing read info with
  | nil => exact ⟨read, info, rfl, rfl⟩
  | cons c cs ih =>
    by_cases hc : c = 0
    · subst hc
      simpa [cutsSequentially] using ih read info
    · have hf : ((c :: cs).filter (· != 0)) = c :: cs.filter (· != 0) := by simp [hc]
      rw [hf, List.map_cons, runModsS_cons]
      by_cases hp : c > 0
      · rw [show applyS names 0 (.cut c) read info = .ok (read.slice (some c) none,
          { info with cutPrefix := some (pySlice read.seq none (some c)) }, []) from if_pos hp]
        obtain ⟨r', i', h1, h2⟩ := ih (read.slice (some c) none) { info with cutPrefix := some (pySlice read.seq none (some c)) }
        refine ⟨r', i', (congrArg _ (List.append_nil evs)).trans h1, ?_⟩
        rw [h2, cutsSequentially, if_pos hp, ← pySlice_from_pos _ _ hp, ← pySlice_to_pos _ _ hp]
        rfl
      · have hn : c < 0 := by omega
        rw [show applyS names 0 (.cut c) read info = .ok (read.slice none (some c),
          { info with cutSuffix := some (pySlice read.seq (some c) none) }, []) from (if_neg hp).trans (if_pos hn)]
        obtain ⟨r', i', h1, h2⟩ := ih (read.slice none (some c)) { info with cutSuffix := some (pySlice read.seq (some c) none) }
        refine ⟨r', i', (congrArg _ (List.append_nil evs)).trans h1, ?_⟩
        rw [h2, cutsSequentially, if_neg hp, if_pos hn, ← pySlice_to_neg _ _ hn, ← pySlice_from_neg _ _ hn]
        rfl

/-- what the model does with the same values on the same probe read: assembly (`makeModsSingle`), then the modifiers in list order -/
def modelCuts (cuts : List Int) (s : Bytes) : Option (Bytes × Bytes × Bytes) :=
  match makeModsSingle { cut := cuts } [] with
  | .ok mods =>
    match runModsS [] mods ⟨[112], s, none⟩ { original := ⟨[112], s, none⟩ } [] with
    | .ok (r, i, _) => some (i.cutPrefix.getD [], i.cutSuffix.getD [], r.seq)
    | .error _ => none
  | .error _ => none

/-- … which is what the model computes for the same values and probe reads (`cuts_in_given_order` and `runModsS_append` for every option record) -/
theorem generated_cuts_are_model :
    ∀ row ∈ Generated.cutProbes, modelCuts row.1 row.2.1 = some (row.2.2.1, row.2.2.2.1, row.2.2.2.2) := by
  decide +kernel

/-- … and it is what the assembly model produces for the corresponding option record -/
theorem generated_stage_order_is_model :
    namesOfMods (makeModsSingle exOpts [exAdapter [65, 67, 71, 84] "A"]) = Generated.stageOrderSingle ∧
    namesOfMods (makeModsSingle exOptsRename [exAdapter [65, 67, 71, 84] "A"]) = Generated.stageOrderSingleRename :=
  ⟨rfl, rfl⟩

/-- paired-end: the routing `(class on R1, class on R2)` of the real pipeline is the documented one and the model's -/
theorem generated_paired_stage_order_is_model :
    namesOfPMods (makeModsPaired (exOptsPaired exOpts) [exAdapter [65, 67, 71, 84] "A"] [exAdapter [84, 84, 84, 84] "B"]) =
      Generated.stageOrderPaired ∧
    namesOfPMods (makeModsPaired (exOptsPaired exOptsRename) [exAdapter [65, 67, 71, 84] "A"] [exAdapter [84, 84, 84, 84] "B"]) =
      Generated.stageOrderPairedRename ∧
    Generated.stageOrderPaired =
      [("UnconditionalCutter", "None"), ("UnconditionalCutter", "None"), ("None", "UnconditionalCutter"), ("None", "UnconditionalCutter"),
       ("NextseqQualityTrimmer", "NextseqQualityTrimmer"), ("QualityTrimmer", "QualityTrimmer"), ("AdapterCutter", "AdapterCutter"),
       ("PolyATrimmer", "PolyATrimmer"), ("Shortener", "Shortener"), ("NEndTrimmer", "NEndTrimmer"),
       ("LengthTagModifier", "LengthTagModifier"), ("SuffixRemover", "SuffixRemover"), ("PrefixSuffixAdder", "PrefixSuffixAdder"),
       ("ZeroCapper", "ZeroCapper")] :=
  ⟨rfl, rfl, rfl⟩

/-- **Step order (C11)**: the real pipeline writes rest/info/wildcard files first, then filters in the documented order, then the sink -/
theorem generated_step_order_is_documented :
    Generated.stepOrderSingle =
      ["RestFileWriter", "InfoFileWriter", "WildcardFileWriter", "too_short", "too_long", "too_many_n", "too_many_expected_errors",
       "too_high_average_error_rate", "casava_filtered", "discard_untrimmed", "SingleEndSink"] :=
  rfl

/-- options in "wrong" order on the command line do not matter: the record has no order; a bare `-l 5 -u 2` pipeline cuts first -/
example : namesOfMods (makeModsSingle { length := some 5, cut := [2] } []) = ["UnconditionalCutter", "Shortener"] := rfl
/-- `-u 3 -u 4` (same sign) is rejected -/
example : namesOfMods (makeModsSingle { cut := [3, 4] } []) = ["error"] := rfl
/-- `-Q 0`: R1 keeps its trimmer, R2 has none -/
example : namesOfPMods (makeModsPaired { paired := true, qualityCutoff := some (some (0, 20)), qualityCutoff2 := some none } [] []) =
    [("QualityTrimmer", "None")] := rfl
/-- `-L` alone: R2 only -/
example : namesOfPMods (makeModsPaired { paired := true, length2 := some 30 } [] []) = [("None", "Shortener")] := rfl

end Cutadapt.C10
