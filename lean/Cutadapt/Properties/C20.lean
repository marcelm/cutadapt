import Cutadapt.Proofs.OrderStats
import Cutadapt.Proofs.OrderRanges
/-! # C20 — per-adapter statistics describe exactly the matches that were applied

Model: `Cutadapt.Stats` (`EndStatistics`, the four `AdapterStatistics.add_match`, as folds over the event log in which
`AdapterCutter.__call__` records `stats.add_match(match)` as `Event.matched side match rc`) and `Cutadapt.Report`
(`ErrorRanges._compute_lengths`). All theorems hold for every adapter list, every event log, every threshold function
`L ↦ int(L · rate)` that is monotone. -/
namespace Cutadapt.C20
open Cutadapt Cutadapt.Adapters Cutadapt.Report

/-- `d[k'] += n` changes the counter of `k'` by `n` and no other counter -/
theorem incr_getCount {κ : Type} [BEq κ] [LawfulBEq κ] (k k' : κ) (n : Nat) (l : List (κ × Nat)) :
    getCount k (incr k' n l) = getCount k l + (if k' == k then n else 0) :=
  getCount_incr k k' n l

/-- keys stay unique (the association list is a dictionary) -/
theorem incr_keys_unique {κ : Type} [BEq κ] [LawfulBEq κ] (k : κ) (n : Nat) (l : List (κ × Nat))
    (h : (l.map (·.1)).Nodup) : ((incr k n l).map (·.1)).Nodup :=
  nodup_keys_incr k n l h

/-! ## the tally

`appliedTo side a evs`: the matches of adapter number `a` applied to reads of side `side` in the run (with the
reverse-complement flag), in order. `frontParts`/`backParts`: the 5' resp. 3' part(s) such a match consists of — a single match
of a 5' adapter class (`-g` and variants) is a 5' part, of a 3' class a 3' part, of an anywhere adapter (`-b`) a 5' part iff it is a
`RemoveBeforeMatch`; a linked match contributes its front match as 5' part and its back match as 3' part. -/

/-- **The reported histograms, adjacent bases and the reverse-complement count are the tally of the applied matches.** -/
theorem stats_are_tally (ads : List Matchable) (side : Nat) (evs : List Event) (a : Nat) (ad : Matchable)
    (h : ads[a]? = some ad) :
    ∃ st, (adapterStats ads side evs)[a]? = some st ∧
      (∀ len e, getCount (len, e) st.front.errors =
        ((appliedTo side a evs).flatMap (fun p => frontParts (isFrontClass ad) (isAnywhereClass ad) p.1)).countP
          (fun r => (r.removedSequenceLength, r.m.errors) == (len, e))) ∧
      (∀ len e, getCount (len, e) st.back.errors =
        ((appliedTo side a evs).flatMap (fun p => backParts (isFrontClass ad) (isAnywhereClass ad) p.1)).countP
          (fun r => (r.removedSequenceLength, r.m.errors) == (len, e))) ∧
      (∀ b, getCount b st.back.adjacent =
        ((appliedTo side a evs).flatMap (fun p => backParts (isFrontClass ad) (isAnywhereClass ad) p.1)).countP
          (fun r => adjKey r.adjacentBase == b)) ∧
      st.front.adjacent = [] ∧
      st.reverseComplemented = (appliedTo side a evs).countP (fun p => p.2) ∧
      (st.front.errors.map (·.1)).Nodup ∧ (st.back.errors.map (·.1)).Nodup ∧ (st.back.adjacent.map (·.1)).Nodup := by
  refine ⟨_, adapterStats_at ads side a evs ad h, ?_⟩
  rw [tallyFold_eq, foldl_addFront, foldl_addBack]
  refine ⟨fun len e => ?_, fun len e => ?_, fun b => ?_, rfl, Nat.zero_add _, ?_, ?_, ?_⟩
  · exact (getCount_foldl_incr errKey (len, e) _ []).trans (Nat.zero_add _)
  · exact (getCount_foldl_incr errKey (len, e) _ []).trans (Nat.zero_add _)
  · exact (getCount_foldl_incr (fun r : MatchRec => adjKey r.adjacentBase) b _ []).trans (Nat.zero_add _)
  · exact nodup_keys_foldl_incr _ _ _ List.nodup_nil
  · exact nodup_keys_foldl_incr _ _ _ List.nodup_nil
  · exact nodup_keys_foldl_incr _ _ _ List.nodup_nil

/-- one statistics record per adapter -/
theorem stats_length (ads : List Matchable) (side : Nat) (evs : List Event) : (adapterStats ads side evs).length = ads.length := by
  have : ∀ acc : List AdapterStats, (evs.foldl (statStep ads side) acc).length = acc.length := by
    induction evs with
    | nil => exact fun _ => rfl
    | cons ev evs ih => exact fun acc => (ih _).trans (statStep_length ads side acc ev)
  exact (this _).trans (List.length_map _)

/-- events of the other read side, of other adapters, and non-match events do not contribute: the statistics of adapter `a` depend
    on the event log only through the matches of `a` applied on that side -/
theorem other_events_do_not_contribute (ads : List Matchable) (side a : Nat) (evs evs' : List Event)
    (h : appliedTo side a evs = appliedTo side a evs') :
    (adapterStats ads side evs)[a]? = (adapterStats ads side evs')[a]? := by
  rw [adapterStats_eq, adapterStats_eq, statFold_at, statFold_at, h]

theorem appliedTo_append (side a : Nat) (evs evs' : List Event) :
    appliedTo side a (evs ++ evs') = appliedTo side a evs ++ appliedTo side a evs' :=
  Cutadapt.appliedTo_append side a evs evs'

theorem appliedTo_matched (side a s : Nat) (m : AnyMatch) (rc : Bool) :
    appliedTo side a [.matched s m rc] = if s = side ∧ m.adapter = a then [(m, rc)] else [] := by
  simp only [appliedTo, List.filterMap_cons, List.filterMap_nil, Bool.and_eq_true, beq_iff_eq]
  by_cases h : s = side ∧ m.adapter = a
  · rw [if_pos h, if_pos h]
  · rw [if_neg h, if_neg h]

/-- **Number of matches per end**: the sum over the whole histogram is the number of 5' (3') parts applied; for 3' parts
    this also equals the sum of the adjacent-base counters -/
theorem total_matches (ads : List Matchable) (side : Nat) (evs : List Event) (a : Nat) (ad : Matchable)
    (h : ads[a]? = some ad) :
    ∃ st, (adapterStats ads side evs)[a]? = some st ∧
      total st.front.errors =
        ((appliedTo side a evs).flatMap (fun p => frontParts (isFrontClass ad) (isAnywhereClass ad) p.1)).length ∧
      total st.back.errors =
        ((appliedTo side a evs).flatMap (fun p => backParts (isFrontClass ad) (isAnywhereClass ad) p.1)).length ∧
      total st.back.adjacent =
        ((appliedTo side a evs).flatMap (fun p => backParts (isFrontClass ad) (isAnywhereClass ad) p.1)).length ∧
      total st.front.errors = ((st.front.errors.map (·.1)).map (fun k => getCount k st.front.errors)).sum ∧
      total st.back.errors = ((st.back.errors.map (·.1)).map (fun k => getCount k st.back.errors)).sum := by
  refine ⟨_, adapterStats_at ads side a evs ad h, ?_⟩
  rw [tallyFold_eq, foldl_addFront, foldl_addBack]
  exact ⟨(total_foldl_incr ..).trans (Nat.zero_add _), (total_foldl_incr ..).trans (Nat.zero_add _),
    (total_foldl_incr ..).trans (Nat.zero_add _),
    total_eq_sum_getCount _ (nodup_keys_foldl_incr _ _ _ List.nodup_nil),
    total_eq_sum_getCount _ (nodup_keys_foldl_incr _ _ _ List.nodup_nil)⟩

/-- every applied match is booked on exactly one end, a linked match once per part it contains -/
theorem parts_partition (fc aw : Bool) (m : AnyMatch) :
    (frontParts fc aw m).length + (backParts fc aw m).length =
      match m with
      | .single _ _ => 1
      | .linked _ f b => (if f.isSome then 1 else 0) + (if b.isSome then 1 else 0) := by
  cases m with
  | single a r => cases aw <;> cases fc <;> cases hb : r.m.before <;> simp [frontParts, backParts, hb]
  | linked a f b => cases f <;> cases b <;> simp [frontParts, backParts]

/-- **For every match length `L` up to the (effective) adapter length, the printed ranges allow exactly `int(L · rate)`
    errors.** (`thr L = int(L · rate)`, monotone in `L`.) -/
theorem error_ranges_spec (thr : Nat → Nat) (hm : ∀ a b, a ≤ b → thr a ≤ thr b) (length L : Nat)
    (h1 : 1 ≤ L) (h2 : L ≤ length) : allowedAt (errorRanges thr length) L = thr L := by
  obtain ⟨ext, he, hext⟩ := accAt_prefix thr hm h2
  unfold allowedAt
  rw [errorRanges_eq, he, List.append_assoc, takeWhile_append_stop, accAt_length thr hm]
  · exact thrz_of_pos thr h1
  · intro x hx
    exact decide_eq_true (accAt_lt thr L x hx)
  · intro y hy
    refine decide_eq_false (Nat.not_lt.2 ?_)
    rcases List.mem_append.1 hy with hy | hy
    · exact hext y hy
    · exact List.mem_singleton.1 hy ▸ h2

/-- the last range ends at the adapter length, and there is one range per allowed error count `0..thr length` -/
theorem error_ranges_last (thr : Nat → Nat) (hm : ∀ a b, a ≤ b → thr a ≤ thr b) (length : Nat) (h : 1 ≤ length) :
    (errorRanges thr length).getLast? = some length ∧ (errorRanges thr length).length = thr length + 1 := by
  refine ⟨errorRanges_getLast thr length, ?_⟩
  rw [errorRanges_length thr hm, thrz_of_pos thr h]

/-- range number `e` ends just before the first length at which more than `e` errors are allowed -/
theorem error_ranges_entry (thr : Nat → Nat) (hm : ∀ a b, a ≤ b → thr a ≤ thr b) (length e x : Nat)
    (hx1 : 1 ≤ x) (hxn : x ≤ length) (hgt : e < thr x) (hmin : ∀ y, 1 ≤ y → y < x → thr y ≤ e) :
    (errorRanges thr length)[e]? = some (x - 1) := by
  obtain ⟨x', rfl⟩ : ∃ x', x = x' + 1 := ⟨x - 1, by omega⟩
  obtain ⟨ext, he, _⟩ := accAt_prefix thr hm hxn
  have hlen := accAt_length thr hm x'
  have hz : thrz thr x' ≤ e := by
    unfold thrz
    split
    · exact Nat.zero_le _
    · exact hmin x' (by omega) (by omega)
  rw [errorRanges_eq, he, accAt_succ thr hm]
  simp only [List.append_assoc]
  rw [List.getElem?_append_right (by omega)]
  rw [List.getElem?_append_left (by rw [List.length_replicate]; omega), List.getElem?_replicate, if_pos (by omega)]
  rfl

/-- 20 % on a 12-base adapter: "1-4 bp: 0; 5-9 bp: 1; 10-12 bp: 2" -/
example : errorRanges (fun L => L * 2 / 10) 12 = [4, 9, 12] := by decide +kernel
example : (List.range 12).map (fun i => allowedAt (errorRanges (fun L => L * 2 / 10) 12) (i+1)) =
    (List.range 12).map (fun i => (i+1) * 2 / 10) := by decide +kernel

def exRec (rstart rstop errors : Nat) (before : Bool) (seq : Bytes) : MatchRec := ⟨⟨0, 3, rstart, rstop, 3, errors, before⟩, seq⟩
def exBack : Matchable :=
  .single { ty := .back, seq := [65,65,65], thr := (fun L => L / 10), minOverlap := 3, readWildcards := false, adapterWildcards := false, indels := true }
def exLog : List Event :=
  [.input 9 none, .withAdapter 0, .matched 0 (.single 0 (exRec 6 9 0 false [71,71,67,67,67,78,65,65,65])) false,   -- adjacent base `N`: booked under ""
   .matched 1 (.single 0 (exRec 1 4 0 false [71,65,65,65])) false,                 -- other side: ignored
   .matched 0 (.single 1 (exRec 1 4 0 false [71,65,65,65])) false,                 -- other adapter: ignored
   .withAdapter 0, .matched 0 (.single 0 (exRec 5 8 1 false [71,71,67,67,67,65,67,65])) true]
example : ((adapterStats [exBack, exBack] 0 exLog)[0]? ==
    some { front := {}, back := { errors := [((3, 0), 1), ((3, 1), 1)], adjacent := [([], 1), ([67], 1)] }, reverseComplemented := 1 }) = true := by
  decide +kernel

end Cutadapt.C20
