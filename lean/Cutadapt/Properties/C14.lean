import Cutadapt.Generated.C14Tables
import Cutadapt.Proofs.Poly
import Cutadapt.ExpectedErrors
/-! # C14 — poly-A, N-end trimming, N counts and expected errors match their definitions

Model: `Qualtrim.polyATrimIndex`, `Qualtrim.nEndIndices`, `Qualtrim.nCountBoth`, `ExpErr.expectedErrorsG`.
All theorems hold for every sequence / quality string of any length. -/
namespace Cutadapt.C14
open Cutadapt Cutadapt.Qualtrim Cutadapt.ExpErr Cutadapt.Generated

/-- score of the suffix starting at `i`: +1 per `hit`, −2 per other character -/
def sufScore (hit : UInt8) (s : Bytes) (i : Nat) : Int := ((s.drop i).map (pval hit)).sum
/-- number of other characters in the suffix starting at `i` -/
def sufErr (hit : UInt8) (s : Bytes) (i : Nat) : Nat := ((s.drop i).map (perr hit)).sum
/-- at most 20 % other characters in the suffix starting at `i` -/
def SufValid (hit : UInt8) (s : Bytes) (i : Nat) : Prop := sufErr hit s i * 5 ≤ s.length - i

theorem scoreAt_reverse (hit : UInt8) (s : Bytes) (t : Nat) :
    scoreAt hit 0 s.reverse t = sufScore hit s (s.length - t) := by
  unfold scoreAt sufScore
  rw [List.take_reverse, List.map_reverse, List.sum_reverse]; simp

theorem natSum_reverse (l : List Nat) : l.reverse.sum = l.sum := List.sum_reverse l

theorem errAt_reverse (hit : UInt8) (s : Bytes) (t : Nat) :
    errAt hit 0 s.reverse t = sufErr hit s (s.length - t) := by
  unfold errAt sufErr
  rw [List.take_reverse, List.map_reverse, natSum_reverse]; simp

theorem validAt_reverse (hit : UInt8) (s : Bytes) (t : Nat) (ht : t ≤ s.length) :
    ValidAt hit 0 0 s.reverse t ↔ SufValid hit s (s.length - t) := by
  rw [ValidAt, SufValid, errAt_reverse, Nat.sub_sub_self ht, Nat.zero_add]

/-- **Poly-A trimming** (`poly_a_trim_index(s)`): if something is removed (`idx < n`), the removed tail `s[idx:]`
    has at least three characters, at most 20 % non-A, a positive score, the maximal score among all valid tails, and is
    the shortest tail with that score. -/
theorem polyA_removed (s : Bytes) (h : polyATrimIndex s false < s.length) :
    let idx := polyATrimIndex s false
    3 ≤ s.length - idx ∧ SufValid 65 s idx ∧ 0 < sufScore 65 s idx ∧
    (∀ i, i < s.length → SufValid 65 s i → sufScore 65 s i ≤ sufScore 65 s idx) ∧
    (∀ i, idx < i → i < s.length → SufValid 65 s i → sufScore 65 s i < sufScore 65 s idx) := by
  obtain ⟨hle, h2, hpos, h3, h4⟩ := polyBest_reflect 65 s (validAt_reverse 65 s) (scoreAt_reverse 65 s)
  simp only [polyATrimIndex, Bool.false_eq_true, if_false] at h ⊢
  by_cases hb3 : polyBest 65 s.reverse < 3
  · rw [if_pos hb3] at h; exact absurd h (Nat.lt_irrefl _)
  · rw [if_neg hb3]
    have hb3 := Nat.le_of_not_lt hb3
    exact ⟨by rw [Nat.sub_sub_self hle]; exact hb3, h2, hpos (Nat.lt_of_lt_of_le (by decide) hb3), fun i hi => h3 i (Nat.le_of_lt hi),
      fun i hi hn => h4 i hi (Nat.le_of_lt hn)⟩

/-- If nothing is removed (`idx = n`), either no valid tail has a positive score, or the best tail (maximal score,
    shortest on ties) is shorter than three characters. -/
theorem polyA_kept (s : Bytes) (h : polyATrimIndex s false = s.length) :
    (∀ i, i < s.length → SufValid 65 s i → sufScore 65 s i ≤ 0) ∨
    (∃ i, i < s.length ∧ s.length - i < 3 ∧ SufValid 65 s i ∧ 0 < sufScore 65 s i ∧
      (∀ i', i' < s.length → SufValid 65 s i' → sufScore 65 s i' ≤ sufScore 65 s i) ∧
      (∀ i', i < i' → i' < s.length → SufValid 65 s i' → sufScore 65 s i' < sufScore 65 s i)) := by
  obtain ⟨hle, h2, hpos, h3, h4⟩ := polyBest_reflect 65 s (validAt_reverse 65 s) (scoreAt_reverse 65 s)
  simp only [polyATrimIndex, Bool.false_eq_true, if_false] at h
  by_cases hb0 : polyBest 65 s.reverse = 0
  · left
    intro i hi hv
    have := h3 i (Nat.le_of_lt hi) hv
    rwa [hb0, ← scoreAt_reverse, scoreAt_zero] at this
  · right
    have hb0 := Nat.pos_of_ne_zero hb0
    have hlt := Nat.sub_lt_self hb0 hle
    have hb3 : polyBest 65 s.reverse < 3 := Decidable.by_contra fun hb3 => by
      rw [if_neg hb3] at h; exact absurd h (Nat.ne_of_lt hlt)
    exact ⟨_, hlt, by rw [Nat.sub_sub_self hle]; exact hb3, h2, hpos hb0, fun i hi => h3 i (Nat.le_of_lt hi),
      fun i hi hn => h4 i hi (Nat.le_of_lt hn)⟩

theorem polyA_index_le (s : Bytes) : polyATrimIndex s false ≤ s.length := by
  unfold polyATrimIndex; simp only [Bool.false_eq_true, if_false]; split <;> omega

/-- **Poly-T heads** (R2, `revcomp=True`): the removed head `s[:idx]` (if `idx > 0`) has at least three characters, at
    most 20 % non-T, positive and maximal score among valid heads, and is the shortest such head. -/
theorem polyT_removed (s : Bytes) (h : 0 < polyATrimIndex s true) :
    let idx := polyATrimIndex s true
    3 ≤ idx ∧ idx ≤ s.length ∧ ValidAt 84 0 0 s idx ∧ 0 < scoreAt 84 0 s idx ∧
    (∀ t, 1 ≤ t → t ≤ s.length → ValidAt 84 0 0 s t → scoreAt 84 0 s t ≤ scoreAt 84 0 s idx) ∧
    (∀ t, 1 ≤ t → t < idx → ValidAt 84 0 0 s t → scoreAt 84 0 s t < scoreAt 84 0 s idx) := by
  have hb := polyBest_spec 84 s
  have hpos := polyBest_pos 84 s
  simp only [polyATrimIndex, if_true] at h ⊢
  by_cases hb3 : polyBest 84 s < 3
  · rw [if_pos hb3] at h; exact absurd h (Nat.lt_irrefl 0)
  · rw [if_neg hb3]
    have hb3 := Nat.le_of_not_lt hb3
    exact ⟨hb3, hb.le, hb.adm, hpos (Nat.lt_of_lt_of_le (by decide) hb3), fun t _ => hb.max t, fun t _ => hb.first t⟩

theorem polyT_kept (s : Bytes) (h : polyATrimIndex s true = 0) :
    (∀ t, 1 ≤ t → t ≤ s.length → ValidAt 84 0 0 s t → scoreAt 84 0 s t ≤ 0) ∨
    (polyBest 84 s < 3 ∧ 1 ≤ polyBest 84 s ∧ 0 < scoreAt 84 0 s (polyBest 84 s) ∧
      (∀ t, 1 ≤ t → t ≤ s.length → ValidAt 84 0 0 s t → scoreAt 84 0 s t ≤ scoreAt 84 0 s (polyBest 84 s)) ∧
      (∀ t, 1 ≤ t → t < polyBest 84 s → ValidAt 84 0 0 s t → scoreAt 84 0 s t < scoreAt 84 0 s (polyBest 84 s))) := by
  have hb := polyBest_spec 84 s
  have hpos := polyBest_pos 84 s
  have h0 := hb.max
  simp only [polyATrimIndex, if_true] at h
  by_cases hb0 : polyBest 84 s = 0
  · left
    rw [hb0, scoreAt_zero] at h0
    exact fun t _ => h0 t
  · right
    have hb3 : polyBest 84 s < 3 := Decidable.by_contra fun hb3 => by rw [if_neg hb3] at h; exact hb0 h
    have hb0 := Nat.pos_of_ne_zero hb0
    exact ⟨hb3, hb0, hpos hb0, fun t _ => hb.max t, fun t _ => hb.first t⟩

theorem tw_len_le (p : α → Bool) (l : List α) : (l.takeWhile p).length ≤ l.length :=
  (List.takeWhile_prefix p).length_le

theorem tw_prefix (p : α → Bool) (l : List α) (i : Nat) (hi : i < (l.takeWhile p).length) (h : i < l.length) : p l[i] = true := by
  rw [← (List.takeWhile_prefix p).getElem hi]
  exact List.all_eq_true.mp List.all_takeWhile _ (List.getElem_mem hi)

theorem takeWhile_stop (p : α → Bool) (l : List α) (h : (l.takeWhile p).length < l.length) :
    p (l[(l.takeWhile p).length]'h) = false := by
  induction l with
  | nil => simp at h
  | cons a l ih =>
    cases ha : p a
    · simp [ha]
    · simp only [List.takeWhile_cons_of_pos ha, List.length_cons, List.getElem_cons_succ] at h ⊢
      exact ih (Nat.lt_of_succ_lt_succ h)

/-- `--trim-n` removes exactly the maximal run of `N` at the start and the maximal run of `N` at the end:
    with `(a, e) = nEndIndices s`, the first `a` characters and the characters from `e` on are `N`, and the character
    after the leading run (if any) is not `N`. The output is the Python slice `s[a:e]` (empty when the read consists
    of `N` only). See `trimN_end_maximal` for the character before the trailing run. -/
theorem trimN_spec (s : Bytes) :
    (nEndIndices s).1 ≤ s.length ∧ (nEndIndices s).2 ≤ s.length ∧
    (∀ i (h : i < s.length), i < (nEndIndices s).1 → s[i] = 78) ∧
    (∀ (h : (nEndIndices s).1 < s.length), s[(nEndIndices s).1] ≠ 78) ∧
    (∀ i (h : i < s.length), (nEndIndices s).2 ≤ i → s[i] = 78) := by
  have hl := tw_len_le isUpperN s.reverse
  rw [List.length_reverse] at hl
  refine ⟨tw_len_le _ _, Nat.sub_le _ _, fun i h hi => eq_of_beq (tw_prefix isUpperN s i hi h),
    fun h => ne_of_beq_false (takeWhile_stop isUpperN s h), fun i h hei => ?_⟩
  -- position `i` of `s` is position `n - 1 - i` of `s.reverse`, inside the run
  rw [nEndIndices] at hei
  have := tw_prefix isUpperN s.reverse (s.length - 1 - i) (by omega)
    (by rw [List.length_reverse]; exact Nat.lt_of_le_of_lt (Nat.sub_le _ _) (Nat.sub_one_lt_of_lt h))
  rw [List.getElem_reverse] at this
  simp only [Nat.sub_sub_self (Nat.le_sub_one_of_lt h)] at this
  exact eq_of_beq this

/-- the character just before the trailing run of `N` (if the run does not cover the whole read) is not `N` -/
theorem trimN_end_maximal (s : Bytes) (h : 0 < (nEndIndices s).2) (h' : (nEndIndices s).2 - 1 < s.length) :
    s[(nEndIndices s).2 - 1] ≠ 78 := by
  simp only [nEndIndices] at h h' ⊢
  have := takeWhile_stop isUpperN s.reverse (by rw [List.length_reverse]; omega)
  rw [List.getElem_reverse] at this
  simp only [Nat.sub_right_comm s.length 1] at this
  exact ne_of_beq_false this

/-- counts upper- and lower-case `N` -/
theorem nCount_spec (s : Bytes) : nCountBoth s = s.count 78 + s.count 110 := by
  induction s with
  | nil => rfl
  | cons c s ih =>
    rw [nCountBoth, List.filter_cons, List.count_cons, List.count_cons]
    rw [nCountBoth] at ih
    cases h1 : c == 78 <;> cases h2 : c == 110
    · simp [ih]
    · simp [ih]; omega
    · simp [ih]; omega
    · rw [eq_of_beq h1] at h2; exact absurd h2 (by decide)

/-- In any commutative, associative arithmetic the four-accumulator loop of `expected_errors_from_phreds` returns the
    plain sum. (IEEE addition is not associative: the `Float` instance is tied to the C code by the bit-exact
    correspondence instead; see the trusted base.) -/
theorem accumulate_eq_sum [Add α] (assoc : ∀ a b c : α, a + b + c = a + (b + c)) (comm : ∀ a b : α, a + b = b + a)
    (xs : List α) : ∀ (a0 a1 a2 a3 : α), accumulate a0 a1 a2 a3 xs = xs.foldl (· + ·) (a0 + a1 + a2 + a3) := by
  haveI : Std.Associative (α := α) (· + ·) := ⟨assoc⟩
  haveI : Std.Commutative (α := α) (· + ·) := ⟨comm⟩
  have fold_add : ∀ (ys : List α) (a b : α), ys.foldl (· + ·) (a + b) = ys.foldl (· + ·) a + b := by
    intro ys
    induction ys with
    | nil => intros; rfl
    | cons y ys ih => intro a b; rw [List.foldl_cons, List.foldl_cons, ← ih]; congr 1; ac_rfl
  intro a0 a1 a2 a3
  induction a0, a1, a2, a3, xs using accumulate.induct with
  | case1 a0 a1 a2 a3 x0 x1 x2 x3 rest ih =>
    -- (a0+x0)+(a1+x1)+(a2+x2)+(a3+x3) = a0+a1+a2+a3+x0+x1+x2+x3
    rw [accumulate, ih]; simp only [List.foldl_cons]; congr 1; ac_rfl
  | case2 a0 a1 a2 a3 rest h =>
    rw [accumulate.eq_2 _ _ _ _ _ h, fold_add, fold_add, fold_add]

/-- a quality character is valid iff it lies in `[base, 126]`, and then its phred value is `c − base` -/
theorem phredOf_spec (base c : UInt8) (hb : base ≤ 126) :
    phredOf base c = (if base ≤ c ∧ c ≤ 126 then some (c.toNat - base.toNat) else none) := by
  have h126 : (126 : UInt8).toNat = 126 := rfl
  have hq : (126 - base).toNat = 126 - base.toNat := UInt8.toNat_sub_of_le _ _ hb
  have hb' : base.toNat ≤ 126 := UInt8.le_iff_toNat_le.mp hb
  simp only [phredOf, gt_iff_lt, UInt8.lt_iff_toNat_lt, UInt8.le_iff_toNat_le, hq, h126]
  by_cases hc : base ≤ c
  · -- no wrap-around
    have hc' := UInt8.le_iff_toNat_le.mp hc
    rw [UInt8.toNat_sub_of_le _ _ hc]
    by_cases h : c.toNat ≤ 126
    · rw [if_neg (Nat.not_lt.mpr (Nat.sub_le_sub_right h _)), if_pos ⟨hc', h⟩]
    · rw [if_pos (Nat.sub_lt_sub_right hb' (Nat.lt_of_not_le h)), if_neg fun h' => h h'.2]
  · -- `c - base` wraps to `256 + c - base > 126`
    have hc' : c.toNat < base.toNat := Nat.lt_of_not_le (mt UInt8.le_iff_toNat_le.mpr hc)
    have := c.toNat_lt
    rw [UInt8.toNat_sub, Nat.mod_eq_of_lt (by omega), if_pos (by omega), if_neg fun h' => Nat.not_le.mpr hc' h'.1]

/-- **Expected errors** over exact arithmetic: for a quality string whose characters are all valid, the value is the
    sum of the table entries `T[q_i − base]` — for every length (all residues mod 4 of the unrolled loop). -/
theorem ee_exact [Add α] (assoc : ∀ a b c : α, a + b + c = a + (b + c)) (comm : ∀ a b : α, a + b = b + a)
    (zero : α) (hz : ∀ a : α, zero + a = a) (tbl : Nat → α) (base : UInt8) (quals : Bytes) (ps : List Nat)
    (h : phreds base quals = some ps) :
    expectedErrorsG zero tbl base quals = some ((ps.map tbl).foldl (· + ·) zero) := by
  unfold expectedErrorsG
  rw [h]; simp only [Option.map_some]
  rw [accumulate_eq_sum assoc comm]
  simp [hz]

/-- the table is `10^(−q/10)` to double precision: `|T[q]^10 · 10^q − 1| < 10^(−13)` for every entry, checked on the
    exact rational values of the generated doubles by kernel computation. -/
def tableAccurate : Bool :=
  (List.zipIdx phredExact).all fun ((num, den), q) =>
    let a := num ^ 10 * 10 ^ q
    let b := den ^ 10
    (if a ≥ b then a - b else b - a) * 10 ^ 13 < b

theorem table_accurate : tableAccurate = true ∧ phredExact.length = 94 := by
  constructor
  · decide +kernel
  · decide +kernel

/-- the bit patterns handed to the `Float` model denote exactly those rationals (normal, positive doubles):
    `(2^52 + mantissa) · 2^(exponent − 1075) = num / den`. -/
def bitsMatchExact : Bool :=
  (List.zip phredBits.toList phredExact).all fun (bits, (num, den)) =>
    let b := bits.toNat
    let e := b / 2 ^ 52
    let mant := b % 2 ^ 52
    e ≥ 1 ∧ e ≤ 1075 ∧ (2 ^ 52 + mant) * den = num * 2 ^ (1075 - e)

theorem table_bits_exact : bitsMatchExact = true ∧ phredBits.size = 94 := by
  constructor
  · decide +kernel
  · decide +kernel

example : polyATrimIndex [67, 71, 65, 65, 65, 65] false = 2 := by decide +kernel           -- "CGAAAA" → 2
example : polyATrimIndex [67, 65, 65, 65, 67, 65, 65, 65, 65, 65] false = 1 := by decide +kernel   -- one non-A inside the tail
example : polyATrimIndex [84, 84, 84, 84, 67] true = 4 := by decide +kernel
example : nEndIndices [78, 78, 65, 78, 67, 78] = (2, 5) := by decide +kernel
example : phreds 33 [73, 33, 126] = some [40, 0, 93] := by decide +kernel
example : phreds 33 [32] = none := by decide +kernel

/-! ## `--poly-a`, `--trim-n`, `--max-n` of the real program, alone and next to unrelated options (regenerated on every run) -/

/-- what `--trim-n` keeps, as an interval (an empty result is `(0, 0)`) -/
def trimNKeptModel (s : Bytes) : Nat × Nat :=
  let r := nEndIndices s
  if r.1 ≥ r.2 then (0, 0) else r

/-- `--max-n num/den`: 1 = kept. Below 1 the cutoff is a fraction of the read length (an empty read is kept); the count is of `N` and `n` -/
def maxNKeptModel (s : Bytes) (num den : Nat) : Nat :=
  let cnt := nCountBoth s
  if num < den then (if s.length = 0 then 1 else if cnt * den > num * s.length then 0 else 1)
  else (if cnt * den > num then 0 else 1)

/-- **`--poly-a`, `--trim-n` and `--max-n` of the real program are the model's `polyATrimIndex`, `nEndIndices` and `nCountBoth` on every probe, and the same whether
    they stand alone or next to `-O 1`, `-O 10`, `-e 0.5`, `--action=none`, `--action=lowercase`**: tails of 0 … 6 A are removed from three A on (whatever `-O` says), a
    single base between N runs survives `--trim-n`, lower-case `n` counts for `--max-n` under every action (`polyA_removed`/`polyA_kept`, `trimN_spec`, `nCount_spec` state
    the definitions for all reads). -/
theorem generated_c14_tables :
    (∀ row ∈ Generated.polyAKept, (Generated.polyAProbes[row.2.1]?).map (fun s => polyATrimIndex s false) = some row.2.2) ∧
    (∀ row ∈ Generated.trimNKept, (Generated.trimNProbes[row.2.1]?).map trimNKeptModel = some (row.2.2.1, row.2.2.2)) ∧
    (∀ row ∈ Generated.maxNKept, (Generated.maxNProbes[row.2.1]?).map (fun p => maxNKeptModel p.1 p.2.1 p.2.2) = some row.2.2) := by
  decide +kernel

end Cutadapt.C14
