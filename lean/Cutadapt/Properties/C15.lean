import Cutadapt.Proofs.StepsDemux
import Cutadapt.Proofs.StepsShape
import Cutadapt.Generated.Demux
/-! # C15 — demultiplexing puts every read into the file of its adapter

Model: `Cutadapt.Pipeline` (`stepS`/`stepP` on `Step.demux`, `Step.combDemux`; `lookupLast`), `Cutadapt.Assembly.makeSteps`.
Helper lemmas: `Cutadapt/Proofs/StepsMake.lean` (closed form of `makeSteps`), `StepsDemux.lean`, `StepsPrefix.lean`. -/
namespace Cutadapt.C15
open Cutadapt Cutadapt.Steps

/-- name of the adapter a match belongs to (`match.adapter.name`); `""` only for an index outside the adapter list -/
def adapterName (ads : List Matchable) (m : AnyMatch) : String := (namesOf ads).getD m.adapter ""

theorem adapterName_eq (ads : List Matchable) (m : AnyMatch) (a : Matchable) (h : ads[m.adapter]? = some a) :
    adapterName ads m = a.name := by
  have hlt : m.adapter < ads.length := (List.getElem?_eq_some_iff.mp h).1
  have hlt' : m.adapter < (ads.map Matchable.name).length := by simpa using hlt
  simp only [adapterName, namesOf, List.getD, List.getElem?_append_left hlt', List.getElem?_map, h]
  rfl

/-- `dict` lookup as `lookupLast` models it: the last binding of a key wins -/
theorem lookupLast_spec [BEq κ] [LawfulBEq κ] (k : κ) (l1 l2 : List (κ × ν)) (v : ν)
    (h : ∀ p ∈ l2, p.1 ≠ k) : lookupLast k (l1 ++ (k, v) :: l2) = some v := by
  unfold lookupLast
  rw [List.reverse_append, List.reverse_cons, List.append_assoc, List.find?_append]
  have : l2.reverse.find? (fun p => p.1 == k) = none := by
    rw [List.find?_eq_none]
    intro p hp
    simpa using h p (by simpa using hp)
  simp [this]

/-- **Single-end.** With a last match `m`: the read goes to the writer bound to the name of `m`'s adapter and is counted
    as written (`KeyError` if there is no such file). Without a match: to the untrimmed/"unknown" writer, counted as
    written — or, with `--discard-untrimmed`, nowhere, counted as filtered. -/
theorem demux_routing (ads : List Matchable) (k : Nat) (ws : List (String × Nat)) (un : Option Nat) (r : Read) (i : Info) :
    (∀ m, i.mts.getLast? = some m →
      stepS ads k (.demux ws un) r i =
        match lookupLast (adapterName ads m) ws with
        | some w => .ok (none, [.sinkStat k r.len none, .write w r none])
        | none => .error .key) ∧
    (i.mts = [] →
      stepS ads k (.demux ws un) r i =
        match un with
        | some w => .ok (none, [.sinkStat k r.len none, .write w r none])
        | none => .ok (none, [.filtered k])) := by
  refine ⟨fun m hm => ?_, fun h => ?_⟩
  · simp only [stepS, hm, adapterName]
    rfl
  · simp only [stepS, h, List.getLast?_nil]
    rfl

/-- **Paired-end, `{name}`.** The same, decided by the matches on R1 only; both mates go to the chosen writer. -/
theorem demux_routing_paired (a1 a2 : List Matchable) (k : Nat) (ws : List (String × Nat)) (un : Option Nat)
    (r1 r2 : Read) (i1 i2 : Info) :
    (∀ m, i1.mts.getLast? = some m →
      stepP a1 a2 k (.demux ws un) (r1, r2) (i1, i2) =
        match lookupLast (adapterName a1 m) ws with
        | some w => .ok (none, [.sinkStat k r1.len (some r2.len), .write w r1 (some r2)])
        | none => .error .key) ∧
    (i1.mts = [] →
      stepP a1 a2 k (.demux ws un) (r1, r2) (i1, i2) =
        match un with
        | some w => .ok (none, [.sinkStat k r1.len (some r2.len), .write w r1 (some r2)])
        | none => .ok (none, [.filtered k])) ∧
    (∀ i2', stepP a1 a2 k (.demux ws un) (r1, r2) (i1, i2') = stepP a1 a2 k (.demux ws un) (r1, r2) (i1, i2)) := by
  refine ⟨fun m hm => ?_, fun h => ?_, fun i2' => rfl⟩
  · simp only [stepP, hm, adapterName]
    rfl
  · simp only [stepP, h, List.getLast?_nil]
    rfl

/-- **Combinatorial, `{name1}`/`{name2}`.** The key is the pair (name of the last R1 match or `none`, name of the last R2
    match or `none`); the pair is written iff the key is bound to a file, else counted as filtered. -/
theorem comb_routing (a1 a2 : List Matchable) (k : Nat) (ws : List ((Option String × Option String) × Nat))
    (r1 r2 : Read) (i1 i2 : Info) :
    stepP a1 a2 k (.combDemux ws) (r1, r2) (i1, i2) =
      match lookupLast (i1.mts.getLast?.map (adapterName a1), i2.mts.getLast?.map (adapterName a2)) ws with
      | some w => .ok (none, [.sinkStat k r1.len (some r2.len), .write w r1 (some r2)])
      | none => .ok (none, [.filtered k]) := by
  simp only [stepP]
  rfl

/-- R1 ends in a match of adapter 1 ("b"): the read goes to writer 11, not to "a"'s writer 10 nor to "unknown" 12 -/
example (r : Read) (m : MatchRec) (x : Adapters.Adapter) :
    stepS [.linked x x true true "a", .linked x x true true "b"] 3 (.demux [("a", 10), ("b", 11)] (some 12)) r
      { mts := [.single 0 m, .single 1 m], original := r } = .ok (none, [.sinkStat 3 r.len none, .write 11 r none]) := by
  rfl
example (r : Read) : stepS [] 3 (.demux [("a", 10)] (some 12)) r { original := r } =
    .ok (none, [.sinkStat 3 r.len none, .write 12 r none]) := rfl
example (r : Read) : stepS [] 3 (.demux [("a", 10)] none) r { original := r } = .ok (none, [.filtered 3]) := rfl

/-- the writer opened for adapter name `n`: `{name}` replaced in `-o` (and `-p`) -/
theorem demuxWriter_paths (o : Opts) (n : String) :
    (demuxWriter o n).path1 = o.output.replace "{name}" n ∧
    (demuxWriter o n).path2 = (if o.paired = true then o.pairedOutput.map (·.replace "{name}" n) else none) ∧
    (unknownWriter o).path1 = o.untrimmedOut.getD (o.output.replace "{name}" "unknown") ∧
    (unknownWriter o).path2 = (if o.paired = true then
        some (o.untrimmedPaired.getD ((o.pairedOutput.getD "").replace "{name}" "unknown")) else none) := by
  cases h : o.paired <;> simp [demuxWriter, unknownWriter, h]

/-- **`{name}`.** When `makeSteps` succeeds in demultiplexing mode, the step list ends in the demultiplexer, and — after the
    writers `n0` of the filters' redirect files — the opened writers are, in order, one per adapter name (bound to that name
    in the demultiplexer), then, unless `--discard-untrimmed`, the one for reads without match. This is fixed by the
    options and the adapter names alone: `makeSteps` does not see any read, the files exist even if they stay empty. -/
theorem demux_writers_opened {o : Opts} {names names2 : List String} {steps : List Step} {f : Files}
    (h : makeSteps o names names2 = .ok (steps, f)) (hdm : demuxMode o = .ok 1) :
    ∃ pre n0, n0 = (front o).1.writers.length ∧
      steps = pre ++ [.demux (names.zipIdx n0) (if o.discardUntrimmed = true then none else some (n0 + names.length))] ∧
      f.writers = (front o).1.writers ++ names.map (demuxWriter o) ++
        (if o.discardUntrimmed = true then [] else [unknownWriter o]) ∧
      (∀ j n, names[j]? = some n → f.writers[n0 + j]? = some (demuxWriter o n)) ∧
      (o.discardUntrimmed = false → f.writers[n0 + names.length]? = some (unknownWriter o)) := by
  obtain ⟨-, heq⟩ := makeSteps_ok_of h hdm
  simp only [finalD_one, openMany] at heq
  have hw : steps = (front o).2 ++ simpleSteps o ++ [.demux (names.zipIdx (front o).1.writers.length)
        (if o.discardUntrimmed = true then none else some ((front o).1.writers.length + names.length))] ∧
      f.writers = (front o).1.writers ++ names.map (demuxWriter o) ++
        (if o.discardUntrimmed = true then [] else [unknownWriter o]) := by
    split at heq
    · rename_i hd
      cases heq
      simp [hd]
    · rename_i hd
      cases heq
      simp [Files.openWriter, hd]
  refine ⟨_, _, rfl, hw.1, hw.2, fun j n hj => ?_, fun hd => ?_⟩
  · rw [hw.2, List.append_assoc, List.getElem?_append_right (Nat.le_add_right _ _), Nat.add_sub_cancel_left,
      List.getElem?_append_left (by simpa using (List.getElem?_eq_some_iff.1 hj).1), List.getElem?_map, hj]
    rfl
  · rw [hw.2, hd, List.append_assoc, List.getElem?_append_right (Nat.le_add_right _ _), Nat.add_sub_cancel_left,
      List.getElem?_append_right (by simp)]
    simp

/-- **`{name1}`/`{name2}`.** One writer per pair of names in `names × names2`, then — unless `--discard-untrimmed` — the
    combinations with "unknown": (none, none), (none, n2) for every R2 name, (n1, none) for every R1 name. -/
theorem comb_writers_opened {o : Opts} {names names2 : List String} {steps : List Step} {f : Files}
    (h : makeSteps o names names2 = .ok (steps, f)) (hdm : demuxMode o = .ok 2) :
    ∃ pre n0, n0 = (front o).1.writers.length ∧
      steps = pre ++ [.combDemux ((combKeys o names names2).zipIdx n0)] ∧
      f.writers = (front o).1.writers ++ (combKeys o names names2).map (combWriter o) ∧
      combKeys o names names2 =
        (names.flatMap fun a => names2.map fun b => (some a, some b)) ++
        (if o.discardUntrimmed = true then [] else
          [(none, none)] ++ names2.map (fun n => (none, some n)) ++ names.map (fun n => (some n, none))) ∧
      ∀ k : Option String × Option String,
        (combWriter o k).path1 = (o.output.replace "{name1}" (k.1.getD "unknown")).replace "{name2}" (k.2.getD "unknown") ∧
        (combWriter o k).path2 =
          some (((o.pairedOutput.getD "").replace "{name1}" (k.1.getD "unknown")).replace "{name2}" (k.2.getD "unknown")) := by
  obtain ⟨-, heq⟩ := makeSteps_ok_of h hdm
  rw [finalD_two] at heq
  cases heq
  exact ⟨(front o).2 ++ simpleSteps o, _, rfl, rfl, rfl, rfl, fun k => ⟨rfl, rfl⟩⟩

/-- the writers of a demultiplexer with an "unknown"/untrimmed file -/
def demuxWriters (ws : List (String × Nat)) (u : Nat) : List Nat := ws.map (·.2) ++ [u]

/-- **Per read.** Same steps `pre`, closed by a demultiplexer (no `--discard-untrimmed`) in one pipeline and by a plain
    sink in the other. If the demultiplexing run of a read succeeds, then so does the plain run, and either both logs are
    identical (a filter of `pre` consumed the read: neither final step sees it), or the demultiplexer writes the read `r'`
    to one of its writers and the sink writes the identical record `r'` to `w0`, both counting it as written. -/
theorem demux_is_partition_per_read {ads : List Matchable} {pre : List Step} {ws : List (String × Nat)} {u w0 idx : Nat}
    {r : Read} {i : Info} {evs0 evsD : List Event}
    (hD : runStepsS ads (pre ++ [.demux ws (some u)]) idx r i evs0 = .ok evsD) :
    ∃ e, (∀ w a b, Event.write w a b ∈ e → ∃ s ∈ pre, w ∈ s.writers) ∧
      ((evsD = evs0 ++ e ∧ runStepsS ads (pre ++ [.sink w0]) idx r i evs0 = .ok (evs0 ++ e)) ∨
       (∃ r' w, w ∈ demuxWriters ws u ∧
          evsD = evs0 ++ e ++ [.sinkStat (idx + pre.length) r'.len none, .write w r' none] ∧
          runStepsS ads (pre ++ [.sink w0]) idx r i evs0 =
            .ok (evs0 ++ e ++ [.write w0 r' none, .sinkStat (idx + pre.length) r'.len none]))) := by
  rw [runStepsS_append] at hD
  rw [runStepsS_append]
  cases hp : runPrefixS ads pre idx r i with
  | error e => simp [hp] at hD
  | ok v =>
    obtain ⟨o, e⟩ := v
    refine ⟨e, fun w a b hw => runPrefixS_writes hp hw, ?_⟩
    cases o with
    | none =>
      simp only [hp, Except.ok.injEq] at hD
      exact .inl ⟨hD.symm, rfl⟩
    | some r' =>
      right
      simp only [hp, runStepsS, stepS] at hD ⊢
      cases hm : i.mts.getLast? with
      | none =>
        simp only [hm, Except.ok.injEq] at hD
        exact ⟨r', u, List.mem_append_right _ (.head _), hD.symm, rfl⟩
      | some m =>
        cases hl : lookupLast ((namesOf ads).getD m.adapter "") ws with
        | none => simp only [hm, hl] at hD; cases hD
        | some w =>
          simp only [hm, hl, Except.ok.injEq] at hD
          exact ⟨r', w, List.mem_append_left _ (lookupLast_mem_snd hl), hD.symm, rfl⟩

/-- conversely the plain run cannot fail where the demultiplexing run does not, and with a file for every adapter name the
    demultiplexing run does not fail where the plain run succeeds -/
theorem plain_ok_demux_ok {ads : List Matchable} {pre : List Step} {ws : List (String × Nat)} {u w0 idx : Nat}
    {r : Read} {i : Info} {evs0 evsS : List Event}
    (hlook : ∀ m, i.mts.getLast? = some m → (lookupLast (adapterName ads m) ws).isSome = true)
    (hS : runStepsS ads (pre ++ [.sink w0]) idx r i evs0 = .ok evsS) :
    ∃ evsD, runStepsS ads (pre ++ [.demux ws (some u)]) idx r i evs0 = .ok evsD := by
  rw [runStepsS_append] at hS ⊢
  cases hp : runPrefixS ads pre idx r i with
  | error e => simp [hp] at hS
  | ok v =>
    obtain ⟨o, e⟩ := v
    cases o with
    | none => exact ⟨_, rfl⟩
    | some r' =>
      simp only [runStepsS, stepS]
      cases hm : i.mts.getLast? with
      | none => exact ⟨_, rfl⟩
      | some m =>
        obtain ⟨w, hw⟩ := Option.isSome_iff_exists.1 (hlook m hm)
        simp only [adapterName] at hw
        simp only [hw]
        exact ⟨_, rfl⟩

/-- per read, at the level of `processReadS`: the plain pipeline succeeds, and the record it writes to `w0` is exactly what
    the demultiplexing pipeline writes to its writers taken together -/
theorem partition_of_read {ads : List Matchable} {mods : List SMod} {pre : List Step} {ws : List (String × Nat)}
    {u w0 : Nat} (hW : (demuxWriters ws u).Nodup)
    (hapartD : ∀ s ∈ pre, ∀ w ∈ s.writers, w ∉ demuxWriters ws u) (hapartS : ∀ s ∈ pre, w0 ∉ s.writers)
    {r : Read} {eD : List Event} (hD : processReadS ⟨ads, mods, pre ++ [.demux ws (some u)]⟩ r = .ok eD) :
    ∃ eS, processReadS ⟨ads, mods, pre ++ [.sink w0]⟩ r = .ok eS ∧
      recordsTo [w0] eS = (demuxWriters ws u).flatMap (fun w => recordsTo [w] eD) := by
  unfold processReadS at hD ⊢
  simp only at hD ⊢
  cases hm : runModsS (namesOf ads) mods r { original := r } [Event.input r.len none] with
  | error e => simp [hm] at hD
  | ok v =>
    obtain ⟨r', i', evs0⟩ := v
    simp only [hm] at hD ⊢
    obtain ⟨cnt, rfl, hc⟩ := runModsS_counter hm
    have h0 : ∀ W, recordsTo W ([Event.input r.len none] ++ cnt) = [] := fun W => by
      rw [recordsTo_append, recordsTo_counters hc]; rfl
    obtain ⟨e, hwr, hcase⟩ := demux_is_partition_per_read (w0 := w0) hD
    have he : ∀ w', (∀ s ∈ pre, w' ∉ s.writers) → recordsTo [w'] e = [] := fun w' hn =>
      recordsTo_eq_nil (fun w a b hw hmem => by
        obtain ⟨s, hs, hws⟩ := hwr w a b hw
        exact hn s hs (List.mem_singleton.1 hmem ▸ hws))
    have heS := he w0 hapartS
    have heD : ∀ w' ∈ demuxWriters ws u, recordsTo [w'] e = [] := fun w' hw' => he w' fun s hs h => hapartD s hs w' h hw'
    rcases hcase with ⟨rfl, hS⟩ | ⟨r'', w, hw, rfl, hS⟩
    · refine ⟨_, hS, ?_⟩
      rw [recordsTo_append, h0, heS]
      rw [flatMap_congr_mem (g := fun _ => []) (fun w' hw' => by rw [recordsTo_append, h0, heD w' hw']; rfl)]
      simp
    · refine ⟨_, hS, ?_⟩
      rw [recordsTo_append, recordsTo_append, h0, heS]
      rw [flatMap_congr_mem (g := fun w' => if w' = w then [(r'', none)] else []) (fun w' hw' => by
        rw [recordsTo_append, recordsTo_append, h0, heD w' hw']
        by_cases hww : w' = w
        · subst hww; simp [recordsTo]
        · have : ¬ w = w' := fun e => hww e.symm
          simp [recordsTo, hww, this])]
      rw [flatMap_single hW hw]
      simp [recordsTo]

/-- **Whole run.** Same adapters, modifiers and filters; one pipeline closed by a demultiplexer with an "unknown" file
    (no trimmed/untrimmed option), the other by the plain sink `w0`; writer indices distinct. If the demultiplexing run
    is error-free, so is the plain run, and the records of the main output are a permutation of the records of all
    demultiplexed files together: nothing lost, nothing duplicated, identical records. -/
theorem demux_is_partition_of_plain_output {ads : List Matchable} {mods : List SMod} {pre : List Step}
    {ws : List (String × Nat)} {u w0 : Nat} {reads : List Read} {evsD : List Event}
    (hW : (demuxWriters ws u).Nodup)
    (hapartD : ∀ s ∈ pre, ∀ w ∈ s.writers, w ∉ demuxWriters ws u) (hapartS : ∀ s ∈ pre, w0 ∉ s.writers)
    (hD : runSingle ⟨ads, mods, pre ++ [.demux ws (some u)]⟩ reads = (evsD, none)) :
    ∃ evsS, runSingle ⟨ads, mods, pre ++ [.sink w0]⟩ reads = (evsS, none) ∧
      (recordsTo [w0] evsS).Perm ((demuxWriters ws u).flatMap (fun w => recordsTo [w] evsD)) := by
  obtain ⟨hcat, hok⟩ := Steps.run_is_concat hD
  have hper : ∀ r ∈ reads,
      processReadS ⟨ads, mods, pre ++ [.sink w0]⟩ r = .ok (evsOf (processReadS ⟨ads, mods, pre ++ [.sink w0]⟩) r) ∧
      recordsTo [w0] (evsOf (processReadS ⟨ads, mods, pre ++ [.sink w0]⟩) r) =
        (demuxWriters ws u).flatMap
          (fun w => recordsTo [w] (evsOf (processReadS ⟨ads, mods, pre ++ [.demux ws (some u)]⟩) r)) := by
    intro r hr
    obtain ⟨eS, h1, h2⟩ := partition_of_read hW hapartD hapartS (hok r hr)
    rw [evsOf_ok h1]
    exact ⟨h1, h2⟩
  refine ⟨_, runReads_of_ok (fun r hr => (hper r hr).1), ?_⟩
  rw [hcat, recordsTo_flatten, List.map_map]
  have e2 : ∀ w, recordsTo [w] (reads.map (evsOf (processReadS ⟨ads, mods, pre ++ [.demux ws (some u)]⟩))).flatten =
      (reads.map (fun r => recordsTo [w] (evsOf (processReadS ⟨ads, mods, pre ++ [.demux ws (some u)]⟩) r))).flatten := by
    intro w; rw [recordsTo_flatten, List.map_map]; rfl
  simp only [e2]
  exact perm_lift (demuxWriters ws u) reads _ _ (fun r hr => (hper r hr).2)

/-- **From the command line.** Options `o` with `{name}` in `-o` (no trimmed/untrimmed option) and the same options with a
    plain output path `out`: `makeSteps` builds the same writers and filters `pre`, closed by the demultiplexer resp. the
    sink, with pairwise distinct writer indices apart from the redirect files — so for every read set and modifier list the
    error-free demultiplexing run partitions exactly the records of the plain run's main output. -/
theorem cli_demux_partition {o : Opts} {out : String} {names : List String} {stepsD stepsS : List Step} {fD fS : Files}
    (hdm : demuxMode o = .ok 1) (hdm' : demuxMode { o with output := out } = .ok 0)
    (hnu : o.discardUntrimmed = false) (hut : o.untrimmedOut = none) (hutp : o.untrimmedPaired = none)
    (hD : makeSteps o names [] = .ok (stepsD, fD)) (hS : makeSteps { o with output := out } names [] = .ok (stepsS, fS))
    {ads : List Matchable} {mods : List SMod} {reads : List Read} {evsD : List Event}
    (hrun : runSingle ⟨ads, mods, stepsD⟩ reads = (evsD, none)) :
    ∃ pre ws u w0 evsS, stepsD = pre ++ [.demux ws (some u)] ∧ stepsS = pre ++ [.sink w0] ∧
      runSingle ⟨ads, mods, stepsS⟩ reads = (evsS, none) ∧
      (recordsTo [w0] evsS).Perm ((demuxWriters ws u).flatMap (fun w => recordsTo [w] evsD)) := by
  obtain ⟨hk, heq⟩ := makeSteps_ok_of hD hdm
  obtain ⟨-, heq'⟩ := makeSteps_ok_of hS hdm'
  -- `finalOk` has the conjunct `!(dm != 0 && o.discardTrimmed)`: no `--discard-trimmed` when demultiplexing
  have hdt : o.discardTrimmed = false := by
    cases hdt : o.discardTrimmed
    · rfl
    · simp [finalOk, hdt] at hk
  rw [finalD_one, if_neg (by simp [hnu])] at heq
  simp only [openMany] at heq
  rw [finalD_plain _ _ _ _ (by decide) (by decide)] at heq'
  -- with none of the trimmed/untrimmed options the plain run has no filter in front of its sink
  rcases untrimmedFilter_cases { o with output := out } names [] (o.pairFilter.getD .any)
      (front { o with output := out }).1 with ⟨-, -, hu⟩ | ⟨ht, -⟩ | ⟨hg, -⟩
  case inr.inl => exact absurd (hdt.symm.trans ht) (by decide)
  case inr.inr => simp [hnu, hut, hutp] at hg
  rw [hu, List.append_nil] at heq'
  cases heq
  cases heq'
  have hb := simple_built (B := False) o (fun h => h.elim)
  have hW : demuxWriters (names.zipIdx (front o).1.writers.length) ((front o).1.writers ++ names.map (demuxWriter o)).length =
      List.range' (front o).1.writers.length (names.length + 1) := by
    simp [demuxWriters, List.zipIdx_map_snd, List.range'_1_concat]
  obtain ⟨evsS, h1, h2⟩ := demux_is_partition_of_plain_output (w0 := (front o).1.writers.length)
    (by rw [hW]; exact List.nodup_range' 1)
    (fun s hs w hw hmem => by have := hb.below s hs w hw; rw [hW, List.mem_range'_1] at hmem; omega)
    (fun s hs hmem => by have := hb.below s hs _ hmem; omega) hrun
  exact ⟨_, _, _, _, evsS, rfl, rfl, h1, h2⟩

/-! ## Demultiplexing as the real program does it (regenerated from the working tree on every run) -/

def sameSet (a b : List String) : Bool := a.all (b.contains ·) && b.all (a.contains ·) && a.length == b.length

/-- where reads without adapter go: the `unknown` file, the `--untrimmed-output` file, or nowhere (`--discard-untrimmed`) -/
def restName : String → List String
  | "plain" => ["unknown"]
  | "untrimmed" => ["<untrimmed>"]
  | _ => []

/-- **documented**: one file per adapter *name* (a name given twice is one file; two names for one sequence are two files), plus the rest file -/
def docFiles (lst : List (String × String)) (mode : String) : List String := (lst.map (·.1)).eraseDups ++ restName mode

def probeSeq : String → String
  | "p1" => "S1" | "p2" => "S2" | "p3" => "S3" | _ => ""

/-- **documented**: a read goes to the file named after the adapter found in it (the first given among adapters with that sequence) -/
def docRoute (lst : List (String × String)) (mode probe : String) : List String :=
  match lst.find? (fun p => p.2 == probeSeq probe) with
  | some p => [p.1]
  | none => restName mode

/-- **`{name}`: the files the real program creates and the file each probe read is written to are the documented ones** — for distinct names, one
    sequence under two names, one name for two sequences, three names, a single adapter; with `unknown`, `--discard-untrimmed` and
    `--untrimmed-output` (`demux_writers_opened` and `demux_routing` state the same of the model for all option records and reads). -/
theorem generated_demux_files_and_routing :
    ∀ row ∈ Generated.demuxSingle, ∃ lst, Generated.demuxLists[row.1]? = some lst ∧
      sameSet row.2.2.1 (docFiles lst row.2.1) = true ∧ ∀ pr ∈ row.2.2.2, pr.2 = docRoute lst row.2.1 pr.1 := by
  have h : ∀ row ∈ Generated.demuxSingle,
      (match Generated.demuxLists[row.1]? with
       | some lst => sameSet row.2.2.1 (docFiles lst row.2.1) && row.2.2.2.all (fun pr => pr.2 == docRoute lst row.2.1 pr.1)
       | none => false) = true := by decide +kernel
  intro row hr
  have := h row hr
  split at this
  · rename_i lst hl
    simp only [Bool.and_eq_true, List.all_eq_true, beq_iff_eq] at this
    exact ⟨lst, hl, this.1, this.2⟩
  · cases this

def combKey (a b : Option String) : String := a.getD "unknown" ++ "-" ++ b.getD "unknown"

/-- **documented**, for R1 adapters `a`, `b` and R2 adapters `x`, `y`: a pair of files for every combination of names, and — unless
    `--discard-untrimmed` — for every combination with `unknown` -/
def docCombFiles (mode : String) : List String :=
  let full := ["a", "b"].flatMap fun a => ["x", "y"].map fun b => combKey (some a) (some b)
  let part := if mode == "plain" then
      [combKey none none] ++ ["x", "y"].map (fun b => combKey none (some b)) ++ ["a", "b"].map (fun a => combKey (some a) none) else []
  (full ++ part).flatMap fun k => [k ++ ".1", k ++ ".2"]

/-- the adapters found in the probe pairs: R1 carries S1 (`a`) / S2 (`b`), R2 carries S3 (`x`) / S1 (`y`) -/
def probePair : String → Option String × Option String
  | "q11" => (some "a", some "x")
  | "q12" => (some "a", some "y")
  | "q20" => (some "b", none)
  | "q01" => (none, some "x")
  | _ => (none, none)

def docCombRoute (mode probe : String) : List String :=
  let k := probePair probe
  if mode != "plain" && (k.1.isNone || k.2.isNone) then [] else [combKey k.1 k.2 ++ ".1", combKey k.1 k.2 ++ ".2"]

/-- **`{name1}`/`{name2}`: files and routing of the real program are the documented ones** (`comb_writers_opened`, `comb_routing` for the model) -/
theorem generated_comb_files_and_routing :
    ∀ row ∈ Generated.demuxComb,
      sameSet row.2.1 (docCombFiles row.1) = true ∧ ∀ pr ∈ row.2.2, pr.2 = docCombRoute row.1 pr.1 := by
  decide +kernel

/-- **paired `{name}` with adapters for R2 only: every pair is 'unknown'** (the file is named after the last match on R1, and R1 is not searched) — both
    mates in the `unknown` pair of files, or nowhere with `--discard-untrimmed`, whatever was found in R2 -/
theorem generated_r2_only_is_unknown :
    ∀ row ∈ Generated.demuxR2Only,
      sameSet row.2.1 ((restName row.1).flatMap fun k => [k ++ ".1", k ++ ".2"]) = true ∧
      ∀ pr ∈ row.2.2, pr.2 = (restName row.1).flatMap fun k => [k ++ ".1", k ++ ".2"] := by
  decide +kernel

end Cutadapt.C15
