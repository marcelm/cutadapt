import Cutadapt.Proofs.FileNames
import Cutadapt.Generated.OutFormat
/-! # C19 — the output format is determined by the file name; interleaving is pairing of consecutive records

Model: `Cutadapt.Files`. Compression codecs, dnaio's readers/writers and multi-member gzip are libraries: "the container is
transparent" is validated by the command-line matrix of the check, not proved. -/
namespace Cutadapt.C19
open Cutadapt.Files

/-- the chosen format does not depend on the number of cores (proxied writers) -/
theorem format_independent_of_proxy (path : String) (ff q : Bool) :
    outputFormat path ff q true = outputFormat path ff q false := rfl

/-- the output format is determined by the file name when the name says so -/
theorem format_by_name (path : String) (ff q prox : Bool) (f : Fmt) (h : formatFromPath path = some f) (hp : path ≠ "-") :
    outputFormat path ff q prox = f := by
  rw [outputFormat_of_not_forced q prox (.inl hp), h]; rfl

/-- `--fasta` forces FASTA on standard output -/
theorem fasta_forced_on_stdout (q prox : Bool) : outputFormat "-" true q prox = .fasta := by
  simp [outputFormat]

/-- otherwise the input format decides -/
theorem format_fallback (path : String) (ff q prox : Bool) (h : formatFromPath path = none) (hs : path ≠ "-" ∨ ff = false) :
    outputFormat path ff q prox = (if q then .fastq else .fasta) := by
  rw [outputFormat_of_not_forced q prox hs, h]; rfl

theorem isSuffixOf_append_self (e n : List Char) : e.isSuffixOf (n ++ e) = true := by
  simp [List.isSuffixOf]

/-- two compression suffixes: if one is a suffix of a name ending in the other, they are the same suffix -/
theorem suffix_clash (n e e' : List Char) (he : e ∈ compressionSuffixes) (he' : e' ∈ compressionSuffixes)
    (h : e'.isSuffixOf (n ++ e) = true) : e' = e :=
  eq_of_isSuffixOf_append compressionSuffixes_incomparable he he' h

theorem find_first {β : Type} (l : List β) (p : β → Bool) (x : β) (hx : x ∈ l) (hp : p x = true)
    (huniq : ∀ y ∈ l, p y = true → y = x) : l.find? p = some x := by
  induction l with
  | nil => cases hx
  | cons a l ih =>
    rw [List.find?_cons]
    cases ha : p a
    · have hx' : x ∈ l := (List.mem_cons.mp hx).resolve_left fun h => by rw [h, ha] at hp; cases hp
      exact ih hx' fun y hy => huniq y (List.mem_cons_of_mem _ hy)
    · rw [huniq a List.mem_cons_self ha]

theorem strip_append (n e : List Char) (he : e ∈ compressionSuffixes) : stripCompression (n ++ e) = n := by
  unfold stripCompression
  have hfind : compressionSuffixes.find? (fun e' => e'.isSuffixOf (n ++ e)) = some e :=
    find_first compressionSuffixes _ e he (isSuffixOf_append_self e n) (fun e' h' h => suffix_clash n e e' he h' h)
  rw [hfind]
  simp

/-- the decision is the same for every compression suffix: `name.ext.gz`, `.xz`, `.bz2`, `.zst` are treated like
    `name.ext` (for a name that does not itself end in a compression suffix) -/
theorem format_independent_of_compression_suffix (n e : List Char) (he : e ∈ compressionSuffixes)
    (hn : ∀ e' ∈ compressionSuffixes, e'.isSuffixOf n = false) :
    formatFromChars (n ++ e) = formatFromChars n := by
  unfold formatFromChars
  rw [strip_append n e he, stripCompression_eq_self hn]

/-- `.fasta` / `.fa` mean FASTA and `.fastq` / `.fq` mean FASTQ, before any compression suffix -/
theorem fasta_names (n : List Char) (hn : ∀ e' ∈ compressionSuffixes, e'.isSuffixOf (n ++ ".fasta".toList) = false) :
    formatFromChars (n ++ ".fasta".toList) = some .fasta := by
  simp only [formatFromChars, stripCompression_eq_self hn, isSuffixOf_append_self, Bool.true_or, if_true]

theorem fastq_names (n : List Char) (hn : ∀ e' ∈ compressionSuffixes, e'.isSuffixOf (n ++ ".fastq".toList) = false) :
    formatFromChars (n ++ ".fastq".toList) = some .fastq := by
  have tbl : ∀ e ∈ [".fasta".toList, ".fa".toList, ".fna".toList, ".csfasta".toList, ".csfa".toList],
      e.isSuffixOf ".fastq".toList = false ∧ ".fastq".toList.isSuffixOf e = false := by decide +kernel
  have no := fun e he => isSuffixOf_append_eq_false n (tbl e he).1 (tbl e he).2
  simp only [List.forall_mem_cons] at no
  obtain ⟨n1, n2, n3, n4, n5, -⟩ := no
  simp only [formatFromChars, stripCompression_eq_self hn, n1, n2, n3, n4, n5, isSuffixOf_append_self]
  rfl

/-- an interleaved file gives the same pair stream as the two de-interleaved files, and writing interleaved is the
    interleaving of the two-file outputs -/
theorem deinterleave_interleave (ps : List (α × α)) : deinterleave (interleave ps) = some ps := by
  induction ps with
  | nil => rfl
  | cons p ps ih => obtain ⟨a, b⟩ := p; simp [interleave, deinterleave, ih]

theorem interleave_unzip (ps : List (α × α)) :
    deinterleave (interleave ps) = some ((ps.map Prod.fst).zip (ps.map Prod.snd)) := by
  rw [deinterleave_interleave]
  congr 1
  induction ps with
  | nil => rfl
  | cons p ps ih => simp [← ih]

theorem interleave_length (ps : List (α × α)) : (interleave ps).length = 2 * ps.length := by
  induction ps with
  | nil => rfl
  | cons p ps ih => obtain ⟨a, b⟩ := p; simp [interleave, ih]; omega

example : formatFromChars "out.fasta.gz".toList = some .fasta := by decide +kernel
example : formatFromChars "reads.fq.zst".toList = some .fastq := by decide +kernel
example : formatFromChars "out.txt".toList = none := by decide +kernel
#guard outputFormat "out.fasta.gz" false true true == .fasta
#guard outputFormat "reads.FQ.zst" false false false == .fastq
#guard outputFormat "out.txt" false true false == .fastq
#guard outputFormat "-" true true false == .fasta
example : ∀ e' ∈ compressionSuffixes, e'.isSuffixOf "out.fasta".toList = false := by decide +kernel

/-! ## The formats the real program writes (regenerated from the working tree on every run) -/

/-- the documented rule on the characters of a file name: the format named by the last extension below the compression suffix (case
    ignored), otherwise the format of the input — `outputFormat` for a path other than `-` (`formatFromPath` is `formatFromChars` on the
    lower-cased characters) -/
def formatOfName (name : List Char) (inputHasQualities : Bool) : Fmt :=
  match formatFromChars (name.map Char.toLower) with
  | some f => f
  | none => if inputHasQualities then .fastq else .fasta

/-- `formatOfName` is `outputFormat` on the characters of the path (for a path other than `-`, or without `--fasta`) -/
theorem outputFormat_eq_formatOfName (path : String) (ff q prox : Bool) (hs : path ≠ "-" ∨ ff = false) :
    outputFormat path ff q prox = formatOfName path.toList q := by
  have hl : path.toLower.toList = path.toList.map Char.toLower := by simp [String.toLower]
  rw [outputFormat_of_not_forced q prox hs, formatFromPath, hl, formatOfName]
  cases formatFromChars (path.toList.map Char.toLower) <;> rfl

/-- **Every output file of the real program has the format its name asks for, with one core and with several, for every compression suffix**
    (`Generated.outputFormats`: names with every format extension, further dots in the base name, upper case, compression suffixes, names
    without a known extension; FASTQ and FASTA input) — the observed table is the model's rule. -/
theorem generated_output_formats :
    ∀ row ∈ Generated.outputFormats, row.2.2.2 = (match formatOfName row.1 row.2.2.1 with | .fasta => 1 | .fastq => 0) := by
  decide +kernel

end Cutadapt.C19
