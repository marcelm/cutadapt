import Cutadapt.Generated.Tolerance
import Cutadapt.Proofs.KmerOverlap
/-! # C07 — the k-mer prefilter never changes which adapter match is found

Model: `Cutadapt.Kmer` (`kmer_heuristic.py`, `_kmer_finder.pyx`, `_make_kmer_finder` and `_kmer_finder()` of the adapter
classes). `Kmer.matchToFiltered a read beyond` is `match_to` as coded (prefilter, then aligner); `Adapters.matchTo a read`
is the aligner alone (what `MockKmerFinder` gives).

History. On the tree as first examined the property failed in five ways: (i) anchored / non-internal adapters with indels,
(ii) `anywhere` adapters on reads inside the adapter, (iii) 5' windows read past the end of short reads, (iv) NUL bytes in the
read against `N` wildcards, (v) regular adapters that allow two or more errors. (i), (v) were repaired by 8c49284 (every
overlap window is widened by the errors allowed at its level when indels are on), (iii) by d940092 (`stop` clamped); the model
follows the repaired code. (ii) was repaired by the `ShortReadsPassKmerFinder` wrapper (adapters whose finder searches both
overlap directions do not show reads shorter than `|adapter| + ⌊rate·|adapter|⌋` to the finder): `anywhere_short_read_repaired`.
(iv) remains (known finding): `prefilter_unsafe_witness`, `prefilter_not_safe`.

Proved: the bit-parallel search is exact (`shift_and_correct`, `shift_and_correct_entry`, `kmers_present_spec`), the verdict
does not depend on memory behind the read (`kmers_present_ignores_beyond`), `kmer_chunks` meets its specification, the
pigeonhole argument, absence of the `NotImplementedError` path, every overlap level is safe on its own
(`overlap_level_safe`), and **`prefilter_safe_partial`: for every ASCII read without NUL bytes (`Kmer.asciiNoNul`) `match_to`
with the prefilter equals the aligner alone, for all eight adapter classes (and `;anywhere`), reads of every length, any number
of errors and indels.** The check evaluates `asciiNoNul` on every oracle failure: all lie outside. -/
namespace Cutadapt.C07
open Cutadapt Cutadapt.Spec Cutadapt.Kmer Cutadapt.Adapters Cutadapt.Align Cutadapt.Generated

/-! ## The bit-parallel search -/

/-- **`shift_and_multiple_is_present` is exact (one mask).** For non-empty words of total length ≤ 64 packed into one
    mask (needle masks, init mask and found mask as `KmerFinder.__cinit__` builds them), the loop over a window returns
    true iff one of the words occurs in the window under the table relation `m`. -/
theorem shift_and_correct (m : UInt8 → UInt8 → Bool) (ws : List Bytes) (hne : ∀ w ∈ ws, w ≠ [])
    (hlen : ws.flatten.length ≤ 64) (window : Bytes) :
    shiftAnd (maskFrom m ws.flatten 0) (initMaskFrom ws 0) (foundMaskFrom ws 0) window 0 = true ↔
      ∃ w ∈ ws, ∃ i, OccursAt m w window i :=
  shiftAnd_correct m ws hne hlen window

example : shiftAnd (maskFrom (· == ·) ([[65, 67], [71]] : List Bytes).flatten 0) (initMaskFrom [[65, 67], [71]] 0)
    (foundMaskFrom [[65, 67], [71]] 0) [84, 84, 65, 67, 84] 0 = true := by decide +kernel
example : shiftAnd (maskFrom (· == ·) ([[65, 67], [71]] : List Bytes).flatten 0) (initMaskFrom [[65, 67], [71]] 0)
    (foundMaskFrom [[65, 67], [71]] 0) [84, 65, 84, 67, 84] 0 = false := by decide +kernel

/-- **… for an entry whose k-mers are split over several masks** (`packWords` = the greedy packing of `__cinit__`):
    some mask reports a hit iff some k-mer of the entry occurs in the window. -/
theorem shift_and_correct_entry (m : UInt8 → UInt8 → Bool) (kmers : List Bytes) (hne : ∀ k ∈ kmers, k ≠ [])
    (hlen : ∀ k ∈ kmers, k.length ≤ 64) (window : Bytes) :
    (packWords kmers).any (fun ws =>
      shiftAnd (maskFrom m ws.flatten 0) (initMaskFrom ws 0) (foundMaskFrom ws 0) window 0) = true ↔
    ∃ k ∈ kmers, ∃ i, OccursAt m k window i :=
  packWords_any_correct m kmers hne hlen window

example : (packWords (List.replicate 3 (List.replicate 30 (65 : UInt8)))).length = 2 := by decide +kernel

/-- **`kmers_present` as a whole.** For a finder built from `entries` (no empty k-mer), the verdict is true iff some
    k-mer of some entry occurs, under `matches_lookup(ref_wildcards, query_wildcards)`, inside the window that the
    entry's `(start, stop)` selects — of the read (`haystack (read ++ beyond) st len` never reaches `beyond`, see `kmers_present_ignores_beyond`). -/
theorem kmers_present_spec {entries : List Kmer.Entry} {ms : List MaskEntry} (h : mkFinder entries = some ms)
    (hne : ∀ e ∈ entries, ∀ k ∈ e.kmers, k ≠ []) (wr wq : Bool) (read beyond : Bytes) :
    kmersPresent (.masks wr wq ms) read beyond = true ↔
    ∃ e ∈ entries, ∃ st len, windowOf e.start (e.stop.getD 0) read.length = some (st, len) ∧
      ∃ k ∈ e.kmers, ∃ i, OccursAt (kmerMatches wr wq) k (haystack (read ++ beyond) st len) i :=
  kmersPresent_iff h hne wr wq read beyond

/-- window arithmetic, as coded: the last 3 characters; from 0 to the end; a 5' window of 6 on a read of 4 (clamped since
    d940092); a 3' window longer than the read is clamped to the read -/
example : windowOf (-3) 0 10 = some (7, 3) ∧ windowOf 0 0 10 = some (0, 10) ∧ windowOf 0 6 4 = some (0, 4) ∧
    windowOf (-6) 0 4 = some (0, 4) ∧ windowOf 0 (-2) 2 = none := by decide +kernel

/-! ## `kmer_chunks` -/

/-- **`kmer_chunks(s, c)`** for `1 ≤ c ≤ |s|`: the chunks, in order, concatenate to `s`; there are `c` of them; each has
    `⌊|s|/c⌋` or `⌊|s|/c⌋ + 1` characters (sizes differ by at most one); none is empty; and the returned set has exactly
    these members. -/
theorem kmer_chunks_spec (s : Bytes) (c : Nat) (h1 : 1 ≤ c) (h2 : c ≤ s.length) :
    (kmerChunksList s c).flatten = s ∧ (kmerChunksList s c).length = c ∧
    (∀ w ∈ kmerChunksList s c, w.length = s.length / c ∨ w.length = s.length / c + 1) ∧
    (∀ w ∈ kmerChunksList s c, w ≠ []) ∧
    (∀ w, w ∈ kmerChunks s c ↔ w ∈ kmerChunksList s c) := by
  obtain ⟨a, b, c', d⟩ := kmerChunksList_spec s c h1 h2
  exact ⟨a, b, c', d, fun _ => mem_kmerChunks⟩

/-- the docstring's example: `AABCABCABC`, 3 ↦ `{"AABC", "ABC"}` -/
example : kmerChunksList [65, 65, 66, 67, 65, 66, 67, 65, 66, 67] 3 = [[65, 65, 66, 67], [65, 66, 67], [65, 66, 67]] ∧
    kmerChunks [65, 65, 66, 67, 65, 66, 67, 65, 66, 67] 3 = [[65, 65, 66, 67], [65, 66, 67]] := by decide +kernel

/-! ## Pigeonhole -/

/-- **Pigeonhole for edit scripts.** If a script `sc` costs at most `e` (indel cost ≥ 1) and its adapter side `lhs sc` is cut
    into `e + 1` consecutive chunks `cs`, then some chunk is consumed entirely by zero-cost `sub` operations: it occurs,
    under the relation `eq`, in the read side `rhs sc`, at an offset that differs from its offset in `lhs sc` by at most the
    number of indels of `sc`. -/
theorem pigeonhole_script (eq : Sym → Sym → Bool) (c : Nat) (hc : 1 ≤ c) (sc : List Op) (e : Nat)
    (hcost : cost eq c sc ≤ e) (cs : List (List Sym)) (hcs : cs.flatten = lhs sc) (hlen : cs.length = e + 1) :
    ∃ j ch o', cs[j]? = some ch ∧ OccursAt eq ch (rhs sc) o' ∧
      o' ≤ (cs.take j).flatten.length + indels sc ∧ (cs.take j).flatten.length ≤ o' + indels sc :=
  Spec.pigeonhole_script eq c hc sc e hcost cs hcs hlen

/-- `AC|GT` against `AGGT` (one mismatch): the chunk `GT` survives at the same offset -/
example : ∃ (j : Nat) (ch : List Sym) (o' : Nat), ([[65, 67], [71, 84]] : List (List Sym))[j]? = some ch ∧
    OccursAt (· == ·) ch (rhs [.sub 65 65, .sub 67 71, .sub 71 71, .sub 84 84]) o' := by
  obtain ⟨j, ch, o', h1, h2, _⟩ := pigeonhole_script (· == ·) 1 (Nat.le_refl 1)
    [.sub 65 65, .sub 67 71, .sub 71 71, .sub 84 84] 1 (by decide) [[65, 67], [71, 84]] (by decide) (by decide)
  exact ⟨j, ch, o', h1, h2⟩

/-! ## The tables -/

/-- `create_positions_and_kmers` never takes the `NotImplementedError` path of `minimize_kmer_search_list`
    (back searches have `stop = None`, front searches have `start = 0`). -/
theorem positions_never_error (adapter : Bytes) (mo : Nat) (thr : Nat → Nat) (b f i ind : Bool) :
    ∃ entries, createPositionsAndKmers adapter mo thr b f i ind = .ok entries :=
  createPositionsAndKmers_ok adapter mo thr b f i ind

/-- `minimize_kmer_search_list` itself does raise for a k-mer searched at two positions one of which is in the middle -/
example : (minimizeKmerSearchList [([65], (2, some 5)), ([65], (0, some 3))]).toOption = none := by decide +kernel

/-- the internal entry `(0, None)` of an adapter with an internal search set holds exactly the chunks of the whole adapter -/
theorem internal_entry {adapter : Bytes} {mo : Nat} {thr : Nat → Nat} {b f ind : Bool} {entries : List Kmer.Entry}
    (h : createPositionsAndKmers adapter mo thr b f true ind = .ok entries) (hmo : 1 ≤ mo) (k : Bytes) :
    (∃ e ∈ entries, e.start = 0 ∧ e.stop = none ∧ k ∈ e.kmers) ↔ k ∈ kmerChunksList adapter (thr adapter.length + 1) :=
  entry_zero_none_iff h hmo k

/-- `create_positions_and_kmers("AAAAATTTTT", 3, 0.1, back_adapter=True, front_adapter=False)` (`⌊L/10⌋` for `int(L·0.1)`);
    the back search `(-9, None, {"AAAAA"})` is absorbed by the internal search `(0, None)` -/
example : (createPositionsAndKmers [65, 65, 65, 65, 65, 84, 84, 84, 84, 84] 3 (· / 10) true false true false).toOption =
    some [⟨-4, none, [[65, 65, 65, 65]]⟩, ⟨-3, none, [[65, 65, 65]]⟩,
          ⟨0, none, [[65, 65, 65, 65, 65], [84, 84, 84, 84, 84]]⟩] := by decide +kernel

/-- with indels the window of a level is widened by the errors allowed there (8c49284): `SuffixAdapter("GCGGAAT", 0.2)`
    (one error at length 7) searches `GCGG`/`AAT` in the last 7 + 1 characters, without indels in the last 7 -/
example : (createPositionsAndKmers [71, 67, 71, 71, 65, 65, 84] 7 (· / 5) true false false true).toOption =
    some [⟨-8, none, [[65, 65, 84], [71, 67, 71, 71]]⟩] ∧
    (createPositionsAndKmers [71, 67, 71, 71, 65, 65, 84] 7 (· / 5) true false false false).toOption =
    some [⟨-7, none, [[65, 65, 84], [71, 67, 71, 71]]⟩] := by decide +kernel

/-! ## The verdict is a function of the read -/

/-- **Since d940092 the verdict of `kmers_present` does not depend on what lies behind the read in memory.** -/
theorem kmers_present_ignores_beyond (f : Finder) (read b1 b2 : Bytes) :
    kmersPresent f read b1 = kmersPresent f read b2 :=
  kmersPresent_ignores_beyond f read b1 b2

/-- every window lies inside the sequence -/
theorem window_inside {start stop : Int} {n st len : Nat} (h : windowOf start stop n = some (st, len)) : st + len ≤ n :=
  windowOf_bound h

/-! ## Every overlap level is safe on its own -/

/-- **The cascade is not needed on the repaired tables.** Let a script align the adapter prefix `ad[:L]` (characters seen through
    `f`), `min_overlap ≤ L ≤ |ad|`, with the text suffix `T[rs:]` at cost at most `thr L` (`thr` as for a rate below 1), and
    let its number of indels be at most the slack of the level (`thr L` with indels, 0 without). Then some search set of
    `create_back_overlap_searchsets(ad, min_overlap, rate, indels)` has a non-empty k-mer, made of adapter characters, that
    occurs in `T` (under `eq`, through `f`) entirely inside that set's window `[|T| + start, |T|)`.
    (The 5' direction is the same statement for the reversed adapter and text.) -/
theorem overlap_level_safe {thr : Nat → Nat} (hthr : ThrOK thr) (ad : Bytes) (mo : Nat) (hmo : 1 ≤ mo) (ind : Bool)
    (eq : Sym → Sym → Bool) (c : Nat) (hc : 1 ≤ c) (f : Sym → Sym) (T : List Sym) (rs L : Nat)
    (hL1 : mo ≤ L) (hL2 : L ≤ ad.length) (s : List Op) (hl : lhs s = (ad.take L).map f) (hr : rhs s = T.drop rs)
    (hrs : rs ≤ T.length) (hcost : cost eq c s ≤ thr L) (hind : indels s ≤ (if ind then thr L else 0)) :
    ∃ S ∈ createBackOverlapSearchsets ad mo thr ind, S.stop = none ∧ ∃ k ∈ S.kmers, k ≠ [] ∧ (∀ a ∈ k, a ∈ ad) ∧ ∃ p,
      OccursAt eq (k.map f) T p ∧ (T.length : Int) + S.start ≤ p :=
  Kmer.overlap_level_safe hthr ad mo hmo ind eq c hc f T rs L hL1 hL2 s hl hr hrs hcost hind

/-- every overlap length from `min_overlap` on has a search set serving it (`Kmer.Serves`) -/
theorem overlap_levels_cover {thr : Nat → Nat} (h : ThrOK thr) (ad : Bytes) (indels : Bool) (mo : Nat) (hmo : 1 ≤ mo)
    (L : Nat) (h1 : mo ≤ L) (h2 : L ≤ ad.length) :
    ∃ S ∈ createBackOverlapSearchsets ad mo thr indels, Serves ad thr indels S L :=
  backSets_serves h ad indels mo hmo L h1 h2

/-- `int(i * 0.1)` for a 29-mer: the levels are (0, 9), (1, 19), (2, 29) -/
example : errorLengths (· / 10) 29 = [(0, 9), (1, 19), (2, 29)] := by decide +kernel

/-! ## The property -/

/-- invariants every adapter object has after `SingleAdapter.__init__` with a maximum error rate below 1:
    non-empty upper-case ASCII sequence without NUL; `thr L = ⌊fl(L·rate)⌋` starts at 0, is monotone, grows by at most one
    per step and stays below `L`; `1 ≤ min_overlap ≤ len(sequence)`, `= len(sequence)` for anchored adapters; without
    indels (indel cost 100000) the adapter is not longer than that cost -/
structure AdapterOK (a : Adapter) : Prop where
  seq_ok : ∀ c ∈ a.seq, c ≠ 0 ∧ c < 128 ∧ tr upperTable c = c
  thr_ok : ThrOK a.thr
  seq_ne : 1 ≤ a.seq.length
  overlap_pos : 1 ≤ a.minOverlap
  overlap_le : a.minOverlap ≤ a.seq.length
  anchored : isAnchored a.ty = true → a.minOverlap = a.seq.length
  noindel_len : a.indels = false → a.seq.length ≤ indelCostOff

/-- reads are ASCII (dnaio guarantees it) -/
def ReadOK (read : Bytes) : Prop := ∀ c ∈ read, c < 128

/-- **The property at full strength**: for every adapter with error rate below 1, every ASCII read and whatever lies
    behind the read in memory, `match_to` with the prefilter reports exactly what the aligner alone reports. -/
def prefilter_safe_statement : Prop :=
  ∀ a : Adapter, AdapterOK a → ∀ read beyond : Bytes, ReadOK read → matchToFiltered a read beyond = matchTo a read

def mkA (ty : AdapterType) (seq : Bytes) (thr : Nat → Nat) (mo : Nat) (aw : Bool) : Adapter :=
  { ty := ty
    seq := seq
    thr := thr
    minOverlap := mo
    readWildcards := false
    adapterWildcards := aw
    indels := true }

/-- (ii) `AnywhereAdapter("TTGT", max_errors=0.2, min_overlap=1)` -/
def w2 : Adapter := mkA .anywhere [84, 84, 71, 84] (· / 5) 1 false
/-- (iv) `BackAdapter("NACGTACGT", max_errors=0, min_overlap=3)` (wildcards in the adapter) -/
def w4 : Adapter := mkA .back [78, 65, 67, 71, 84, 65, 67, 71, 84] (fun _ => 0) 3 true
/-- `TTTT\0ACGTACGTGGGGGGGGGG` -/
def r4 : Bytes := [84, 84, 84, 84, 0, 65, 67, 71, 84, 65, 67, 71, 84, 71, 71, 71, 71, 71, 71, 71, 71, 71, 71]

/-- **Counterexample that remains** (known finding; replayed against the real code by the check):
    (iv) a NUL byte in the read matches the adapter's `N` wildcard in the aligner but nothing in the finder's tables
        (`matches_lookup` drops `\0`): regular 3' adapter `NACGTACGT`, read `TTTT\0ACGTACGTGGGGGGGGGG`. It lies outside `asciiNoNul`. -/
theorem prefilter_unsafe_witness :
    matchTo w4 r4 = some ⟨0, 9, 4, 13, 9, 0, false⟩ ∧ matchToFiltered w4 r4 [] = none ∧ asciiNoNul r4 = false := by
  decide +kernel

/-- former counterexample (ii): `anywhere` adapter `TTGT`, read `G` lying strictly inside the adapter — the k-mer finder alone
    still says no, but the read is shorter than `|adapter| + ⌊rate·|adapter|⌋ = 4` and bypasses it: the match is reported -/
theorem anywhere_short_read_repaired :
    kmersPresent (finderFor w2) [71] [] = false ∧ shortReadPasses w2 [71] = true ∧
    matchToFiltered w2 [71] [] = some ⟨2, 3, 0, 1, 1, 0, true⟩ ∧ matchTo w2 [71] = some ⟨2, 3, 0, 1, 1, 0, true⟩ := by
  decide +kernel

theorem w2_ok : AdapterOK w2 where
  seq_ok := by decide +kernel
  thr_ok :=
    { zero := rfl
      mono := fun _ _ h => Nat.div_le_div_right h
      step := fun x => by
        show (x + 1) / 5 ≤ x / 5 + 1
        omega
      lt := fun _ h => Nat.div_lt_self h (by decide) }
  seq_ne := by decide
  overlap_pos := by decide
  overlap_le := by decide
  anchored := by decide
  noindel_len := by decide

theorem w4_ok : AdapterOK w4 where
  seq_ok := by decide +kernel
  thr_ok := ⟨rfl, fun _ _ _ => Nat.le_refl 0, fun _ => Nat.zero_le 1, fun _ h => h⟩
  seq_ne := by decide
  overlap_pos := by decide
  overlap_le := by decide
  anchored := by decide
  noindel_len := by decide

/-- the property as stated (every ASCII read, NUL included) does not hold for the code as it is -/
theorem prefilter_not_safe : ¬ prefilter_safe_statement := by
  intro h
  have h1 := h w4 w4_ok r4 [] (by unfold ReadOK; decide +kernel)
  have h2 := prefilter_unsafe_witness
  rw [h2.1, h2.2.1] at h1
  cases h1

/-- The prefilter can only remove a match, never alter one. -/
theorem prefilter_only_removes (a : Adapter) (read beyond : Bytes) :
    matchToFiltered a read beyond = matchTo a read ∨ matchToFiltered a read beyond = none := by
  unfold matchToFiltered
  split
  · exact Or.inl rfl
  · exact Or.inr rfl

/-- **The property for every read without NUL bytes.** For every adapter with error rate below 1 (`AdapterOK`) and every
    ASCII read without NUL (`Kmer.asciiNoNul read = true`) — of any length, also shorter than the adapter —
    `match_to` with the prefilter reports exactly what the aligner alone reports:
    all eight adapter classes (and `;anywhere`), matches of any placement, any number of errors and indels, whatever lies
    behind the read in memory. The soundness of `Aligner.locate` (C01: `Cutadapt.Align.locate_sound`) enters as the hypothesis
    `hsound`, which has the shape of that theorem (`Cutadapt/Proofs/KmerCompose.lean` discharges it). -/
theorem prefilter_safe_partial (a : Adapter) (hok : AdapterOK a)
    (hsound : LocateSound (alignerCfg a (flagsOf a)) a.seq.length) (read beyond : Bytes)
    (hdom : asciiNoNul read = true) : matchToFiltered a read beyond = matchTo a read :=
  matchToFiltered_eq_of_ascii a ⟨hok.thr_ok, hok.overlap_pos, hok.noindel_len⟩
    (fun c hc => ⟨(hok.seq_ok c hc).1, (hok.seq_ok c hc).2.2⟩) hok.seq_ne hsound read beyond hdom

/-- the premises are satisfiable, also by a read shorter than an `anywhere` adapter -/
example : AdapterOK w2 ∧ asciiNoNul [71] = true := ⟨w2_ok, by decide⟩

/-! ### regression examples: the reproducers of the repaired classes (i), (iii), (v) on the model of the repaired code -/

/-- (i) `SuffixAdapter("GCGGAAT", max_errors=0.2)` on `CGTGCGGATAT` -/
example : matchToFiltered (mkA .suffix [71, 67, 71, 71, 65, 65, 84] (· / 5) 7 false) [67, 71, 84, 71, 67, 71, 71, 65, 84, 65, 84] []
    = some ⟨0, 7, 3, 11, 5, 1, false⟩ := by decide +kernel

/-- (iii) `FrontAdapter("ACGTACGTAC", max_errors=0, min_overlap=3)` on the empty read: the k-mer behind the read is not seen -/
example : kmersPresent (finderFor (mkA .front [65, 67, 71, 84, 65, 67, 71, 84, 65, 67] (fun _ => 0) 3 false)) []
    [0, 67, 71, 84, 65, 67] = false := by decide +kernel

/-- (v) `BackAdapter("TCAAAACAGTTCAATGTGA", max_errors=0.15, min_overlap=3)` on `TCAAAATCAGTTACAATGTG` -/
example : matchToFiltered
    (mkA .back [84, 67, 65, 65, 65, 65, 67, 65, 71, 84, 84, 67, 65, 65, 84, 71, 84, 71, 65] (· * 3 / 20) 3 false)
    [84, 67, 65, 65, 65, 65, 84, 67, 65, 71, 84, 84, 65, 67, 65, 65, 84, 71, 84, 71] []
    = some ⟨0, 18, 0, 20, 14, 2, false⟩ := by decide +kernel

/-- which reads bypass the finder: for an `anywhere` adapter those shorter than `|adapter| + ⌊rate·|adapter|⌋`; none for a 3' adapter -/
example : shortReadPasses w2 [84, 84, 71] = true ∧ shortReadPasses w2 [84, 84, 71, 84] = false ∧
    shortReadPasses (mkA .back [84, 84, 71, 84] (· / 5) 1 false) [71] = false := by decide +kernel

/-! ## Tolerance over the full adapter for absolute error counts (regenerated from the working tree on every run) -/

/-- `-e k` on an adapter of `n` informative bases is stored as the double `k/n`; over the whole adapter the tolerance is `floor(fl(k/n) · n)`
    (`thrOfRate`), which is `k - 1` for a few pairs such as (1, 49) -/
def fullTolerance (k n : Nat) : Nat := Cutadapt.Adapters.thrOfRate (Float.ofNat k / Float.ofNat n) n

/-- **Behind the k-mer prefilter the real program accepts the same number of substitutions as the aligner alone** (`floor(fl(k/n) · n)`, also at the pairs where that
    is `k - 1`): the prefilter's own error budget and the aligner's agree on the working tree -/
theorem generated_prefilter_tolerance :
    ∀ row ∈ Cutadapt.Generated.toleranceRows, row.2.2.2.2 = fullTolerance row.1 row.2.1 ∧ row.2.2.2.2 = row.2.2.1 := by
  decide +kernel

end Cutadapt.C07
