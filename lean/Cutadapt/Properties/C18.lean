import Cutadapt.Proofs.ParserTop
import Cutadapt.Proofs.ParserWF
import Cutadapt.Generated.ParserTables
/-! # C18 — adapter specifications mean what the documented notation says

Model: `Cutadapt.Parser` (`parse` = `make_adapters_from_one_specification` on the `search_parameters` of `cli.adapters_from_args`,
down to the checks of the adapter and aligner constructors).  Grammar, rendering and documented meaning:
`Cutadapt.Notation` (`Spec`, `Spec.render`, `meaning`, `Spec.WF`), written from doc/guide.rst.

All theorems are for every specification of the grammar (any option letter, restriction, parameter list, name, run-length
expression, linked combination, file variant with any number of records) and all global options; no sampling. -/
namespace Cutadapt.C18
open Cutadapt.Parser Cutadapt.Notation Cutadapt.ParserProofs

/-- **`parse_render`.** For every well-formed specification `s` of the documented grammar and all global options (with an integer
    `-O`), parsing the text `s.render` given after `-a`/`-g`/`-b` (with the FASTA records `s.records` for `file:` forms) yields
    exactly the adapters `meaning s g` that the documentation describes — class, sequence, name, error rate (absolute numbers
    divided by the number of non-N bases), minimum overlap, indels, wildcards, `anywhere`, required/optional — or, precisely when the
    documentation's side conditions are violated, an error that the command line reports with exit status 2. -/
theorem parse_render (s : Spec) (g : Globals) (hs : s.WF) (hg : GlobalsOK g) :
    toKind (parse s.render s.opt.atype g s.records) = meaning s g := by
  cases s with
  | plain o b => exact parse_plain o hs g hg
  | file o a path fparams records => exact parse_file o a path fparams records hs g hg

/-- `-a`, `-g`, `-b` select 3', 5' and "anywhere" adapters. -/
theorem option_letter : Opt.a.atype = .back ∧ Opt.g.atype = .front ∧ Opt.b.atype = .anywhere := ⟨rfl, rfl, rfl⟩

/-- **`expand_render_runs`**: brace expansion inverts run-length rendering — `x{n}` repeats the character `x` `n` times
    (`n ≤ 10000`, the characters themselves are not braces). -/
theorem expand_render_runs (rs : List Run) (hrs : ∀ r ∈ rs, r.c ≠ '{' ∧ r.c ≠ '}' ∧ ∀ n, r.rep = some n → n ≤ 10000) :
    expandBraces (renderRuns rs) = .ok (expandRuns rs) :=
  expandBraces_renderRuns rs hrs

/-- **`params_roundtrip`** (exact form): the text `p1;p2;…` parses into the written (canonical name, value) pairs — `e`,
    `max_error_rate`, `max_errors` all become `max_errors`, `o` becomes `min_overlap`, integers stay integers, `ddd.ddd` becomes the
    exact decimal, flags become `True` — followed by the `optional → required=False`, `noindels → indels=False` rewriting; a
    parameter given twice (under any of its names) is a `KeyError`. -/
theorem params_roundtrip_exact (ps : List Param) :
    parseParams (paramsTail ps) =
      if (ps.map (fun p => p.name.key)).Nodup then postParams (paramDict ps) else .error .duplicateKey :=
  parseParams_tail ps

/-- **`params_roundtrip`**: a consistent parameter list is read back as written. -/
theorem params_roundtrip (ps : List Param) (hc : paramsConsistent ps = true) :
    ∃ P, parseParams (paramsTail ps) = .ok P ∧
      Params.get P .maxErrors = (paramSem ps).e ∧ Params.get P .minOverlap = (paramSem ps).o ∧
      Params.get P .indels = (paramSem ps).indels ∧ Params.get P .required = (paramSem ps).required ∧
      P.flag .anywhere = (paramSem ps).anywhere ∧ P.flag .rightmost = (paramSem ps).rightmost ∧
      Params.get P .optional = none ∧ Params.get P .noindels = none := by
  obtain ⟨P, hP, hget⟩ := parseParams_ok hc
  -- the lookups of `postGet` at these keys are the fields of `paramSem` by definition
  exact ⟨P, hP, hget .maxErrors, hget .minOverlap, hget .indels, hget .required, Params.flag_congr (hget .anywhere),
    Params.flag_congr (hget .rightmost), hget .optional, hget .noindels⟩

/-- the abbreviations of the guide's table -/
theorem abbreviations :
    PName.e.key = .maxErrors ∧ PName.maxErrorRate.key = .maxErrors ∧ PName.maxErrors.key = .maxErrors ∧
    PName.o.key = .minOverlap ∧ PName.minOverlap.key = .minOverlap := ⟨rfl, rfl, rfl, rfl, rfl⟩

/-- **`restrictions_roundtrip`**: `^ADAPTER`, `ADAPTER$`, `XADAPTER`, `ADAPTERX` are recognised as anchored / non-internal at the
    5' / 3' side, and the adapter sequence is what remains. -/
theorem restrictions_roundtrip (r : Restr) {sq : Str} (h : edgeOK sq) (hc : ∀ c ∈ sq, c ≠ '^' ∧ c ≠ '$') :
    parseRestrictions (r.pre ++ sq ++ r.suf) =
      some (match r with | .caret => some .anchored | .xLeft => some .noninternal | _ => none,
            match r with | .dollar => some .anchored | .xRight => some .noninternal | _ => none, sq) := by
  rw [parseRestrictions_render r h hc]
  cases r <;> rfl

/-- **`precedence`** (the model's merge): adapter-specific parameters `ps` override file-level parameters `fp`, which override
    the global options `g`. -/
theorem precedence (g fp ps : Params) (k : Key) :
    Params.get ((g.update fp).update ps) k =
      match Params.get ps k with
      | some v => some v
      | none => match Params.get fp k with
        | some v => some v
        | none => Params.get g k := by
  rw [Params.get_update]
  cases Params.get ps k with
  | some v => rfl
  | none => simp only; rw [Params.get_update]; cases Params.get fp k <;> rfl

/-- `precedence`, documented side: the settings in force for a record of a `file:` specification are the global ones overridden
    by the file-level parameters (`Base.override`), and `meaningPart` lets the record's own parameters override those. -/
theorem precedence_documented (g : Globals) (fparams : List Param) :
    let b := (Base.ofGlobals g).override (paramSem fparams)
    b.e = ((paramSem fparams).e.getD g.maxErrors) ∧ b.o = ((paramSem fparams).o.getD g.minOverlap) ∧
    b.indels = ((paramSem fparams).indels.getD (.bool g.indels)) := ⟨rfl, rfl, rfl⟩

/-- **`absolute_errors`** (constructor level, every class and keyword dict): the adapter keeps the value `e` given for
    `max_errors` and a divisor such that its maximum error rate is exactly `e / divisor`; the divisor is the number of non-`N`
    characters of the (normalised) sequence when `e ≥ 1`, and 1 when `e < 1` (the value is the rate itself). -/
theorem absolute_errors {cls : Cls} {sq : Str} {name : Option Str} {kw : Params} {a : Single}
    (h : construct cls sq name kw = .ok a) :
    a.maxErrors = (Params.get kw .maxErrors).getD (.float ⟨1, 1⟩) ∧ a.sequence = normSeq sq ∧
    a.divisor = (if a.maxErrors.ge1 = true ∧ nonN a.sequence ≠ 0 then nonN a.sequence else 1) := by
  unfold construct at h
  have h3 := ite_err_ok (ite_err_ok (ite_err_ok h))
  rcases ite_ok_cases h3 with h4 | h4
  · have h5 := ite_err_ok (ite_err_ok h4)
    injection h5 with h5; subst h5; exact ⟨rfl, rfl, rfl⟩
  · have h5 := ite_err_ok (ite_err_ok h4)
    injection h5 with h5; subst h5; exact ⟨rfl, rfl, rfl⟩

/-- `absolute_errors` as an equation between exact rationals: `rate · (#non-N) = e` whenever `e ≥ 1` and the sequence is not all `N`
    (`rate = numer / (den · divisor)`, so this is `divisor = #non-N`), and `rate = e` when `e < 1`. -/
theorem absolute_errors_rate {cls : Cls} {sq : Str} {name : Option Str} {kw : Params} {a : Single}
    (h : construct cls sq name kw = .ok a) :
    (a.maxErrors.ge1 = true → nonN a.sequence ≠ 0 → a.divisor = nonN a.sequence) ∧ (a.maxErrors.ge1 = false → a.divisor = 1) := by
  obtain ⟨_, _, hd⟩ := absolute_errors h
  constructor
  · intro h1 h2; rw [hd]; simp [h1, h2]
  · intro h1; rw [hd]; simp [h1]

/-- **`rejected`** (general form): whenever the documented meaning of a well-formed specification is "invalid", the parser raises
    an exception that `cli.py` turns into an error message and exit status 2. -/
theorem rejected (s : Spec) (g : Globals) (hs : s.WF) (hg : GlobalsOK g) (hm : meaning s g = .error .cmdline) :
    ∃ e, parse s.render s.opt.atype g s.records = .error e ∧ e.isCmdline = true :=
  toKind_error_inv (by rw [parse_render s g hs hg, hm])

theorem rejected_single (o : Opt) (p : Part) (g : Globals) (hp : p.WF) (hg : GlobalsOK g)
    (h : paramsConsistent p.params = false ∨ classOf o.atype p.restr (paramSem p.params).rightmost = none ∨
      ((paramSem p.params).o.isSome = true ∧ p.restr.anchored = true) ∨ (paramSem p.params).required.isSome = true) :
    ∃ e, parse p.render o.atype g [] = .error e ∧ e.isCmdline = true := by
  apply rejected (.plain o (.single p)) g hp hg
  have : meaningPart o.atype false p (Base.ofGlobals g) (Notation.optOr none p.name) = .error .cmdline :=
    meaningPart_invalid _ _ _ _ _ (by simpa using h)
  simp [meaning, meaningBody, this]

/-- **A parameter given twice** (under the same or an equivalent name, e.g. `e=…;max_errors=…`) is rejected. -/
theorem rejected_duplicate_parameter (o : Opt) (p : Part) (g : Globals) (hp : p.WF) (hg : GlobalsOK g)
    (h : ¬ (p.params.map (fun q => q.name.key)).Nodup) :
    ∃ e, parse p.render o.atype g [] = .error e ∧ e.isCmdline = true :=
  rejected_single o p g hp hg (Or.inl (Bool.eq_false_iff.mpr fun hc => h ((consistent_iff _).mp hc).1))

/-- **`optional` together with `required`** is rejected. -/
theorem rejected_optional_and_required (o : Opt) (p : Part) (g : Globals) (hp : p.WF) (hg : GlobalsOK g)
    (h1 : (paramDict p.params).has .optional = true) (h2 : (paramDict p.params).has .required = true) :
    ∃ e, parse p.render o.atype g [] = .error e ∧ e.isCmdline = true :=
  rejected_single o p g hp hg (Or.inl (Bool.eq_false_iff.mpr fun hc => ((consistent_iff _).mp hc).2.1 ⟨h1, h2⟩))

/-- **`indels` together with `noindels`** is rejected. -/
theorem rejected_indels_and_noindels (o : Opt) (p : Part) (g : Globals) (hp : p.WF) (hg : GlobalsOK g)
    (h1 : (paramDict p.params).has .indels = true) (h2 : (paramDict p.params).has .noindels = true) :
    ∃ e, parse p.render o.atype g [] = .error e ∧ e.isCmdline = true :=
  rejected_single o p g hp hg (Or.inl (Bool.eq_false_iff.mpr fun hc => ((consistent_iff _).mp hc).2.2 ⟨h1, h2⟩))

/-- **Placement restrictions on the wrong side**: `-a ^ADAPTER`, `-a XADAPTER`, `-g ADAPTER$`, `-g ADAPTERX` and any restriction
    with `-b` are rejected. -/
theorem rejected_restriction (o : Opt) (p : Part) (g : Globals) (hp : p.WF) (hg : GlobalsOK g)
    (h : (o = .a ∧ (p.restr = .caret ∨ p.restr = .xLeft)) ∨ (o = .g ∧ (p.restr = .dollar ∨ p.restr = .xRight)) ∨
      (o = .b ∧ p.restr ≠ .none)) :
    ∃ e, parse p.render o.atype g [] = .error e ∧ e.isCmdline = true :=
  rejected_single o p g hp hg (Or.inr (Or.inl (by
    generalize (paramSem p.params).rightmost = rm
    generalize p.restr = r at h
    rcases h with ⟨rfl, rfl | rfl⟩ | ⟨rfl, rfl | rfl⟩ | ⟨rfl, h⟩
    · cases rm <;> rfl
    · cases rm <;> rfl
    · cases rm <;> rfl
    · cases rm <;> rfl
    · cases r <;> cases rm <;> first | rfl | exact absurd rfl h)))

/-- **`min_overlap`/`o` on an anchored adapter** (`^ADAPTER;o=…`, `ADAPTER$;min_overlap=…`) is rejected. -/
theorem rejected_min_overlap_anchored (o : Opt) (p : Part) (g : Globals) (hp : p.WF) (hg : GlobalsOK g)
    (h1 : (paramDict p.params).has .minOverlap = true) (h2 : p.restr = .caret ∨ p.restr = .dollar) :
    ∃ e, parse p.render o.atype g [] = .error e ∧ e.isCmdline = true :=
  rejected_single o p g hp hg (Or.inr (Or.inr (Or.inl ⟨h1, by rcases h2 with h | h <;> rw [h] <;> rfl⟩)))

/-- **`rightmost` on anything but a regular 5' adapter** is rejected. -/
theorem rejected_rightmost (o : Opt) (p : Part) (g : Globals) (hp : p.WF) (hg : GlobalsOK g)
    (h1 : (paramSem p.params).rightmost = true) (h2 : ¬ (o = .g ∧ p.restr = .none)) :
    ∃ e, parse p.render o.atype g [] = .error e ∧ e.isCmdline = true :=
  rejected_single o p g hp hg (Or.inr (Or.inl (by
    rw [h1]
    cases o <;> cases hr : p.restr <;> first | rfl | exact absurd ⟨rfl, hr⟩ h2)))

/-- **`required`/`optional` outside a linked adapter** is rejected. -/
theorem rejected_required_outside_linked (o : Opt) (p : Part) (g : Globals) (hp : p.WF) (hg : GlobalsOK g)
    (h : (paramDict p.params).has .required = true ∨ (paramDict p.params).has .optional = true) :
    ∃ e, parse p.render o.atype g [] = .error e ∧ e.isCmdline = true :=
  rejected_single o p g hp hg (Or.inr (Or.inr (Or.inr (by
    simp only [paramSem]
    rcases h with h | h
    · by_cases ho : (paramDict p.params).has .optional = true
      · simp [ho]
      · simp only [ho, Bool.false_eq_true, if_false]; exact h
    · simp [h]))))

/-- **`-b ADAPTER1...ADAPTER2`**: linked adapters exist for `-a` and `-g` only. -/
theorem rejected_linked_b (f b : Part) (g : Globals) (hs : (Spec.plain .b (.linked f b)).WF) (hg : GlobalsOK g) :
    ∃ e, parse (Body.linked f b).render .anywhere g [] = .error e ∧ e.isCmdline = true :=
  rejected (.plain .b (.linked f b)) g hs hg rfl

/-- **`required_defaults`**: in a linked adapter `PART1...PART2` each part is required or optional as its own
    `required`/`optional` parameter says; without such a parameter, with `-g` both parts are required, and with `-a` a part is
    required exactly if it carries a placement restriction (anchored `^`/`$` as documented; the implementation also counts the
    non-internal `X` forms). -/
theorem required_defaults (o : Opt) (f b : Part) (g : Globals) (hs : (Spec.plain o (.linked f b)).WF) (hg : GlobalsOK g)
    {fa ba : Single} {fr br : Value} {nm : Option Str}
    (h : parse (Body.linked f b).render o.atype g [] = .ok [.linked fa ba fr br nm]) :
    fr = ((paramSem f.params).required).getD (.bool (if o = .g then true else f.restr.restricted)) ∧
    br = ((paramSem b.params).required).getD (.bool (if o = .g then true else b.restr.restricted)) ∧
    nm = f.name := by
  have hm := parse_render (.plain o (.linked f b)) g hs hg
  simp only [Spec.render, Spec.opt, Spec.records, h, toKind, meaning] at hm
  cases hmb : meaningBody o (.linked f b) (Base.ofGlobals g) none with
  | error k => rw [hmb] at hm; cases hm
  | ok d =>
    rw [hmb] at hm
    obtain ⟨fa', ba', rfl⟩ := meaningBody_linked_ok hmb
    cases hm
    exact ⟨rfl, rfl, rfl⟩

/-- `-a PART1...PART2` without `required`/`optional`: only restricted (anchored) parts are required. -/
theorem required_defaults_a (f b : Part) (g : Globals) (hs : (Spec.plain .a (.linked f b)).WF) (hg : GlobalsOK g)
    (hf : (paramSem f.params).required = none) (hb : (paramSem b.params).required = none)
    {fa ba : Single} {fr br : Value} {nm : Option Str}
    (h : parse (Body.linked f b).render .back g [] = .ok [.linked fa ba fr br nm]) :
    fr = .bool f.restr.restricted ∧ br = .bool b.restr.restricted := by
  obtain ⟨h1, h2, _⟩ := required_defaults .a f b g hs hg h
  rw [hf] at h1; rw [hb] at h2
  exact ⟨h1, h2⟩

/-- `-g PART1...PART2` without `required`/`optional`: both parts are required. -/
theorem required_defaults_g (f b : Part) (g : Globals) (hs : (Spec.plain .g (.linked f b)).WF) (hg : GlobalsOK g)
    (hf : (paramSem f.params).required = none) (hb : (paramSem b.params).required = none)
    {fa ba : Single} {fr br : Value} {nm : Option Str}
    (h : parse (Body.linked f b).render .front g [] = .ok [.linked fa ba fr br nm]) :
    fr = .bool true ∧ br = .bool true := by
  obtain ⟨h1, h2, _⟩ := required_defaults .g f b g hs hg h
  rw [hf] at h1; rw [hb] at h2
  exact ⟨h1, h2⟩

/-! ## Where the implementation leaves the documented notation (model level)

These two are facts about the code that the model reproduces; they are the reason for the side conditions `Part.noAnywhere`
(linked parts) and `fileParamName` (file-level parameters) in `Spec.WF`. -/

/-- the default global options: `-e 0.1 -O 3`, no read wildcards, adapter wildcards, indels -/
def defaultGlobals : Globals := ⟨.float ⟨1, 1⟩, .int 3, false, true, true⟩

/-- `-a "ACGT;anywhere...TTTT"`: `anywhere` inside a linked part reaches `SingleAdapter.__init__` as an unexpected keyword
    argument — a `TypeError`, which `cli.py` does not turn into a command-line error (traceback, exit status 1). -/
theorem linked_anywhere_crashes :
    toKind (parse (cs!"ACGT;anywhere...TTTT") .back defaultGlobals []) = .error .crash := by rfl

/-- `-a "file:adapters.fa;anywhere"` (equally `;rightmost`, `;required` for records that are not linked): file-level flags
    are passed on as keyword arguments — `TypeError` as above. -/
theorem file_level_flag_crashes :
    toKind (parse (cs!"file:a.fa;anywhere") .back defaultGlobals [(cs!"r1", cs!"ACGT")]) = .error .crash ∧
    toKind (parse (cs!"file:a.fa;rightmost") .front defaultGlobals [(cs!"r1", cs!"ACGT")]) = .error .crash ∧
    toKind (parse (cs!"file:a.fa;required") .back defaultGlobals [(cs!"r1", cs!"ACGT")]) = .error .crash := ⟨rfl, rfl, rfl⟩

/-- `-g "ad1=^AC{3}N{2}g;e=0.2;noindels"` -/
def ex1 : Spec :=
  .plain .g (.single ⟨some (cs!"ad1"), .caret, [⟨'A', none⟩, ⟨'C', some 3⟩, ⟨'N', some 2⟩, ⟨'g', none⟩],
    [⟨.e, some (.dec 0 [2])⟩, ⟨.noindels, none⟩]⟩)

/-- `-a "^ACGT;optional...T{4}X;o=3;max_errors=2"` -/
def ex2 : Spec :=
  .plain .a (.linked ⟨none, .caret, [⟨'A', none⟩, ⟨'C', none⟩, ⟨'G', none⟩, ⟨'T', none⟩], [⟨.optional, none⟩]⟩
    ⟨none, .xRight, [⟨'T', some 4⟩], [⟨.o, some (.int 3)⟩, ⟨.maxErrors, some (.int 2)⟩]⟩)

/-- `-g "^file:ad.fa;e=0.2;noindels"` with records `>r1 first` `ACGTAC;e=1` and `>` `ACGT...TTTT;min_overlap=2` -/
def ex3 : Spec :=
  .file .g .caret (cs!"ad.fa") [⟨.e, some (.dec 0 [2])⟩, ⟨.noindels, none⟩]
    [⟨cs!"r1 first", .single ⟨none, .none, [⟨'A', none⟩, ⟨'C', none⟩, ⟨'G', none⟩, ⟨'T', none⟩, ⟨'A', none⟩, ⟨'C', none⟩],
        [⟨.e, some (.int 1)⟩]⟩⟩,
     ⟨[], .linked ⟨none, .none, [⟨'A', none⟩, ⟨'C', none⟩, ⟨'G', none⟩, ⟨'T', none⟩], []⟩
        ⟨none, .none, [⟨'T', none⟩, ⟨'T', none⟩, ⟨'T', none⟩, ⟨'T', none⟩], [⟨.minOverlap, some (.int 2)⟩]⟩⟩]

theorem ex1_WF : ex1.WF := specWfB_sound (by decide +kernel)
theorem ex2_WF : ex2.WF := specWfB_sound (by decide +kernel)
theorem ex3_WF : ex3.WF := specWfB_sound (by decide +kernel)

example : ex1.render = cs!"ad1=^AC{3}N{2}g;e=0.2;noindels" := by decide +kernel
example : ex2.render = cs!"^ACGT;optional...T{4}X;o=3;max_errors=2" := by decide +kernel
example : ex3.render = cs!"^file:ad.fa;e=0.2;noindels" ∧
    ex3.records = [(cs!"r1 first", cs!"ACGTAC;e=1"), ([], cs!"ACGT...TTTT;min_overlap=2")] := by decide +kernel

/-- `parse_render` applies to the three instances; their documented meanings are (not trivially) these: -/
example : toKind (parse ex1.render .front defaultGlobals []) = meaning ex1 defaultGlobals := parse_render ex1 _ ex1_WF rfl
example : meaning ex1 defaultGlobals =
    .ok [.single ⟨.prefix, cs!"ACCCNNG", some (cs!"ad1"), .float ⟨2, 1⟩, 1, .int 7, .bool false, .bool false, true, false⟩] := by
  rfl
example : toKind (parse ex2.render .back defaultGlobals []) = meaning ex2 defaultGlobals := parse_render ex2 _ ex2_WF rfl
example : meaning ex2 defaultGlobals =
    .ok [.linked ⟨.prefix, cs!"ACGT", some (cs!"linked_front"), .float ⟨1, 1⟩, 1, .int 4, .bool true, .bool false, false, false⟩
      ⟨.nonInternalBack, cs!"TTTT", some (cs!"linked_back"), .int 2, 4, .int 3, .bool true, .bool false, false, false⟩
      (.bool false) (.bool true) none] := by
  rfl
example : toKind (parse ex3.render .front defaultGlobals ex3.records) = meaning ex3 defaultGlobals := parse_render ex3 _ ex3_WF rfl
example : meaning ex3 defaultGlobals =
    .ok [.single ⟨.prefix, cs!"ACGTAC", some (cs!"r1"), .int 1, 6, .int 6, .bool false, .bool false, false, false⟩,
      .linked ⟨.prefix, cs!"ACGT", some (cs!"linked_front"), .float ⟨2, 1⟩, 1, .int 4, .bool false, .bool false, false, false⟩
        ⟨.back, cs!"TTTT", some (cs!"linked_back"), .float ⟨2, 1⟩, 1, .int 2, .bool false, .bool false, false, false⟩
        (.bool true) (.bool true) none] := by
  rfl

/-- `expand_render_runs`: `AC{3}N{0}g{12}` -/
example : expandBraces (renderRuns [⟨'A', none⟩, ⟨'C', some 3⟩, ⟨'N', some 0⟩, ⟨'g', some 12⟩]) = .ok (cs!"ACCCgggggggggggg") :=
  expand_render_runs _ (by decide +kernel)

/-- `params_roundtrip`: `e=0.25;o=4;noindels;anywhere` -/
example : paramsConsistent [⟨.e, some (.dec 0 [2, 5])⟩, ⟨.o, some (.int 4)⟩, ⟨.noindels, none⟩, ⟨.anywhere, none⟩] = true := by decide +kernel
example : paramsTail [⟨.e, some (.dec 0 [2, 5])⟩, ⟨.o, some (.int 4)⟩, ⟨.noindels, none⟩, ⟨.anywhere, none⟩] = cs!"e=0.25;o=4;noindels;anywhere" := by
  decide +kernel

/-- `restrictions_roundtrip`: `XACGTN` -/
example : edgeOK (cs!"ACGTN") ∧ ∀ c ∈ cs!"ACGTN", c ≠ '^' ∧ c ≠ '$' := ⟨edgeB_sound (by decide +kernel), by decide +kernel⟩

/-- `absolute_errors`: `-a "ACGTNNAC;e=2"` has rate 2/6 -/
example : ∃ a, construct .back (cs!"ACGTNNAC") none [(.maxErrors, .int 2)] = .ok a ∧ a.maxErrors = .int 2 ∧ a.divisor = 6 :=
  ⟨_, rfl, rfl, rfl⟩

/-- the `rejected_*` theorems: `-g "^ACGT;o=3"`, `-a "XACGT"`, `-a "ACGT;rightmost"`, `-a "ACGT;optional"`, `-a "ACGT;e=1;max_errors=2"`,
    `-b "ACGT...TTTT"` -/
example : ∃ e, parse (cs!"^ACGT;o=3") .front defaultGlobals [] = .error e ∧ e.isCmdline = true :=
  rejected_min_overlap_anchored .g ⟨none, .caret, [⟨'A', none⟩, ⟨'C', none⟩, ⟨'G', none⟩, ⟨'T', none⟩], [⟨.o, some (.int 3)⟩]⟩
    defaultGlobals (partWfB_sound (by decide +kernel)) rfl (by decide +kernel) (Or.inl rfl)
example : ∃ e, parse (cs!"XACGT") .back defaultGlobals [] = .error e ∧ e.isCmdline = true :=
  rejected_restriction .a ⟨none, .xLeft, [⟨'A', none⟩, ⟨'C', none⟩, ⟨'G', none⟩, ⟨'T', none⟩], []⟩
    defaultGlobals (partWfB_sound (by decide +kernel)) rfl (Or.inl ⟨rfl, Or.inr rfl⟩)
example : ∃ e, parse (cs!"ACGT;rightmost") .back defaultGlobals [] = .error e ∧ e.isCmdline = true :=
  rejected_rightmost .a ⟨none, .none, [⟨'A', none⟩, ⟨'C', none⟩, ⟨'G', none⟩, ⟨'T', none⟩], [⟨.rightmost, none⟩]⟩
    defaultGlobals (partWfB_sound (by decide +kernel)) rfl (by decide +kernel) (by decide +kernel)
example : ∃ e, parse (cs!"ACGT;optional") .back defaultGlobals [] = .error e ∧ e.isCmdline = true :=
  rejected_required_outside_linked .a ⟨none, .none, [⟨'A', none⟩, ⟨'C', none⟩, ⟨'G', none⟩, ⟨'T', none⟩], [⟨.optional, none⟩]⟩
    defaultGlobals (partWfB_sound (by decide +kernel)) rfl (Or.inr (by decide +kernel))
example : ∃ e, parse (cs!"ACGT;e=1;max_errors=2") .back defaultGlobals [] = .error e ∧ e.isCmdline = true :=
  rejected_duplicate_parameter .a ⟨none, .none, [⟨'A', none⟩, ⟨'C', none⟩, ⟨'G', none⟩, ⟨'T', none⟩],
      [⟨.e, some (.int 1)⟩, ⟨.maxErrors, some (.int 2)⟩]⟩
    defaultGlobals (partWfB_sound (by decide +kernel)) rfl (by decide +kernel)
example : ∃ e, parse (cs!"ACGT...TTTT") .anywhere defaultGlobals [] = .error e ∧ e.isCmdline = true :=
  rejected_linked_b ⟨none, .none, [⟨'A', none⟩, ⟨'C', none⟩, ⟨'G', none⟩, ⟨'T', none⟩], []⟩
    ⟨none, .none, [⟨'T', none⟩, ⟨'T', none⟩, ⟨'T', none⟩, ⟨'T', none⟩], []⟩ defaultGlobals
    (bodyWfB_sound (b := .linked _ _) (by decide +kernel)) rfl

/-- `required_defaults`: `-a "^ACGT...TTTT"` (front required, back optional) and `-g "ACGT...TTTT"` (both required) -/
example : ∃ fa ba, parse (cs!"^ACGT...TTTT") .back defaultGlobals [] = .ok [.linked fa ba (.bool true) (.bool false) none] :=
  ⟨_, _, rfl⟩
example : ∃ fa ba, parse (cs!"ACGT...TTTT") .front defaultGlobals [] = .ok [.linked fa ba (.bool true) (.bool true) none] :=
  ⟨_, _, rfl⟩

def canonName : Parser.Key → String
  | .maxErrors => "max_errors" | .minOverlap => "min_overlap" | .anywhere => "anywhere" | .required => "required"
  | .optional => "optional" | .indels => "indels" | .noindels => "noindels" | .rightmost => "rightmost"
  | .readWildcards => "read_wildcards" | .adapterWildcards => "adapter_wildcards" | .forceAnywhere => "force_anywhere"

/-- every name the code's `allowed_parameters` accepts is accepted by the model and un-abbreviated to the same canonical name -/
theorem generated_parameters_match_model :
    Generated.allowedParameters.all (fun p => (Parser.keyOfName p.1.toList).map canonName == some p.2) = true := by decide +kernel

/-- … and the model accepts no other name: the twelve names of the model are exactly the generated ones -/
theorem model_parameters_are_generated :
    ["e", "error_rate", "max_error_rate", "max_errors", "o", "min_overlap", "anywhere", "required", "optional", "indels", "noindels",
      "rightmost"].all (fun n => Generated.allowedParameters.any (fun p => p.1 == n)) = true ∧
    Generated.allowedParameters.length = 12 := by decide +kernel

/-- the IUPAC alphabet of `SingleAdapter.__init__` is the model's -/
theorem generated_iupac_matches_model :
    (List.range 128).all (fun n => Parser.isIupac (Char.ofNat n) == Generated.iupacAlphabet.toList.contains (Char.ofNat n)) = true := by
  -- `isIupac` tests membership in the very list that the generated string spells out
  have h : Generated.iupacAlphabet.toList = cs!"ABCDGHKMNRSTUVWXY" := by decide +kernel
  rw [h]
  exact List.all_eq_true.mpr fun _ _ => beq_self_eq_true _

/-- the brace repeat limit is the model's -/
theorem generated_brace_limit : Generated.braceLimit = 10000 := by decide

end Cutadapt.C18
