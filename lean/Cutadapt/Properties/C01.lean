import Cutadapt.Generated.Tolerance
import Cutadapt.Proofs.MatchSoundRaw
/-! # C01 — every reported adapter match is a genuine, in-tolerance occurrence

Statements are in the documented vocabulary of `Spec/Occurrence.lean` and `Spec/Edit.lean`; the model is
`Adapters.matchTo` (the eight `match_to` methods without the k-mer prefilter). What is proved here is the
soundness half: bounds, placement, overlap, an alignment of cost ≤ `errors` under the documented wildcard rules,
tolerance on the non-N aligned adapter bases, Hamming distance when indels are off. Minimality of `errors` (`errors_minimal`,
`matchTo_errors_is_distance`) rests on exactness of the banded DP (`Proofs/DpExact*.lean`). -/
namespace Cutadapt.C01
open Cutadapt Cutadapt.Align Cutadapt.Spec Cutadapt.Generated Cutadapt.Adapters Cutadapt.MatchSound

/-- documented adapter type of each adapter class -/
def docType : AdapterType → AType
  | .front => .regular5
  | .rightmostFront => .rightmost5
  | .back => .regular3
  | .anywhere => .anywhere
  | .nonInternalFront => .nonInternal5
  | .nonInternalBack => .nonInternal3
  | .prefix => .anchored5
  | .suffix => .anchored3

/-- well-formedness of an adapter as built by `mkAdapter` from CLI input -/
structure AdapterWF (a : Adapter) : Prop where
  upper : ∀ c ∈ a.seq, ¬ (97 ≤ c ∧ c ≤ 122)            -- stored sequence is upper-cased
  thr_mono : ∀ x y, x ≤ y → a.thr x ≤ a.thr y
  noForce : a.forceAnywhere = false
  anchoredOverlap : isAnchored a.ty = true → a.minOverlap = a.seq.length

structure MatchSound (a : Adapter) (read : Bytes) (mt : SingleMatch) : Prop where
  bounds : mt.astart ≤ mt.astop ∧ mt.astop ≤ a.seq.length ∧ mt.rstart ≤ mt.rstop ∧ mt.rstop ≤ read.length
  placement : Placement (docType a.ty) a.seq.length read.length mt.astart mt.astop mt.rstart mt.rstop
  overlap : a.minOverlap ≤ mt.astop - mt.astart
  script : ∃ s, lhs s = seg a.seq mt.astart mt.astop ∧ rhs s = seg read mt.rstart mt.rstop ∧
                cost (docMatch a.adapterWildcards a.readWildcards) (indelCost a) s ≤ mt.errors
  tolerance : mt.errors ≤ a.thr (Spec.effLen a.adapterWildcards a.seq mt.astart mt.astop)
  removes : mt.before = removesBefore a.ty mt.rstart

/-- the seven `Where` flag sets are the documented `EndSkip` combinations -/
theorem flags_match_documentation :
    whereBack = endSkipQueryStart + endSkipQueryStop + endSkipReferenceEnd ∧
    whereFront = endSkipQueryStart + endSkipQueryStop + endSkipReferenceStart ∧
    wherePrefix = endSkipQueryStop ∧
    whereSuffix = endSkipQueryStart ∧
    whereFrontNotInternal = endSkipReferenceStart + endSkipQueryStop ∧
    whereBackNotInternal = endSkipQueryStart + endSkipReferenceEnd ∧
    whereAnywhere = endSkipReferenceStart + endSkipQueryStart + endSkipReferenceEnd + endSkipQueryStop ∧
    (endSkipReferenceStart, endSkipQueryStart, endSkipReferenceEnd, endSkipQueryStop) = (1, 2, 4, 8) := by
  decide

/-- the generated translation tables together with `Aligner`'s comparison implement the documented character
    matching, for every adapter character that is not a lower-case letter and every read byte -/
theorem tables_match_documentation (cfg : Cfg) (x y : UInt8) (hx : ¬ (97 ≤ x ∧ x ≤ 122)) :
    ∃ x' y', encodeRef cfg [x] = [x'] ∧ encodeQuery cfg [y] = [y'] ∧
      docMatch cfg.wildRef cfg.wildQuery x y = cfg.eq x' y' := by
  rw [encodeRef_eq_map, encodeQuery_eq_map]
  exact ⟨_, _, rfl, rfl, docMatch_eq_aligner cfg.wildRef cfg.wildQuery x y hx⟩

/-- the same for the comparers (which upper-case the adapter themselves) -/
theorem tables_match_documentation_comparer (c : CmpCfg) (x y : UInt8) :
    ∃ x' y', cmpEncodeRef c [x] = [x'] ∧ cmpEncodeQuery c [y] = [y'] ∧
      docMatch c.wildRef c.wildQuery x y = charsEqual (!c.wildQuery && !c.wildRef) x' y' := by
  rw [cmpEncodeRef_eq_map, cmpEncodeQuery_eq_map]
  exact ⟨_, _, rfl, rfl, docMatch_eq_comparer c.wildRef c.wildQuery x y⟩

/-- What each class's engine reports: an occurrence, placed as the class demands, and with the least number of errors
    for its two intervals (for the comparers of anchored adapters without indels only below `indelCostOff`). One case
    analysis over the classes serves `matchTo_sound` and `alignment_min`. -/
theorem alignment_sound (a : Adapter) (read : Bytes) (h : AdapterWF a) {as ae rs re : Nat} {sc : Int} {e : Nat}
    (hm : alignment a read = some (as, ae, rs, re, sc, e)) :
    RawSound a.adapterWildcards a.readWildcards (indelCost a) a.thr a.minOverlap a.seq read as ae rs re e ∧
    Placement (docType a.ty) a.seq.length read.length as ae rs re ∧
    ((a.indels = false → isAnchored a.ty = true → a.seq.length < indelCostOff) →
      RawMin a.adapterWildcards a.readWildcards (indelCost a) a.seq read as ae rs re e) := by
  obtain ⟨hup, hmono, hforce, hanch⟩ := h
  obtain ⟨ty, seq, thr, mo, rw, aw, indels, force, name⟩ := a
  simp only at hup hmono hforce hanch ⊢
  subst hforce
  cases ty
  case anywhere =>
    obtain ⟨hp, hr, hmin⟩ := locate_raw _ _ _ _ rfl hup hmono hm
    rw [List.length_map] at hp
    exact ⟨RawSound.upperRead_iff.mp hr, (placement_iff_flags _ rfl ..).mp hp, fun _ => hmin.upperRead⟩
  case rightmostFront =>
    -- `whereBack` on the reversed strings: the regular 3' placement, mirrored
    obtain ⟨as', ae', rs', re', hloc, rfl, rfl, rfl, rfl⟩ := (alignment_rightmost rfl rfl).mp hm
    simp only
    obtain ⟨hp, hr, hmin⟩ := locate_raw _ whereBack seq.reverse read.reverse List.length_reverse
      (fun c hc => hup c (List.mem_reverse.mp hc)) hmono hloc
    have hb := hr.bounds
    rw [List.length_reverse, List.length_reverse] at hb hp
    obtain ⟨p1, p2⟩ := (placement_iff_flags _ (t := .regular3) rfl ..).mp hp
    exact ⟨hr.reverse, ⟨by omega, by omega⟩, fun _ => hmin.reverse hb⟩
  -- anchored adapters without indels: the comparers
  case' «prefix» =>
    cases indels
    · obtain ⟨rfl, rfl, rfl, rfl, hr, hmin⟩ := comparePrefix_raw _ _ seq read hup (hanch rfl) hm
      exact ⟨hr, ⟨rfl, rfl, rfl⟩, fun hlen => hmin (hlen rfl rfl)⟩
  case' suffix =>
    cases indels
    · obtain ⟨rfl, rfl, rfl, rfl, hr, hmin⟩ := compareSuffix_raw _ _ seq read hup (hanch rfl) hm
      exact ⟨hr, ⟨rfl, rfl, rfl⟩, fun hlen => hmin (hlen rfl rfl)⟩
  -- every other class runs its aligner on adapter and read as they are
  all_goals
    rw [alignment_eq_locate read rfl rfl] at hm
    obtain ⟨hp, hr, hmin⟩ := locate_raw _ _ _ read rfl hup hmono hm
    exact ⟨hr, (placement_iff_flags _ rfl ..).mp hp, fun _ => hmin⟩

/-- **C01, soundness half.** Every match reported by `match_to` lies inside adapter and read, obeys the placement
    rule of its adapter type, covers the minimum overlap, is witnessed by an alignment of cost ≤ `errors` under the
    documented wildcard rules, and `errors` is within the tolerance on the non-N aligned adapter bases. -/
theorem matchTo_sound (a : Adapter) (read : Bytes) (h : AdapterWF a) (mt : SingleMatch)
    (hm : matchTo a read = some mt) : MatchSound a read mt := by
  obtain ⟨hal, hbefore⟩ := matchTo_eq_some.mp hm
  obtain ⟨hr, hp, _⟩ := alignment_sound a read h hal
  exact ⟨hr.bounds, hp, hr.overlap, hr.script, hr.tolerance, hbefore⟩

/-- With indels disabled, aligned adapter and read intervals have equal length and `errors` bounds their Hamming
    distance (the error rate must not exceed 1, i.e. `thr L ≤ L`; see `noindel_needs_rate_le_one`). -/
theorem noindel_is_hamming (a : Adapter) (read : Bytes) (mt : SingleMatch) (h : AdapterWF a)
    (hi : a.indels = false) (hlen : a.seq.length < indelCostOff) (hthr : ∀ L, a.thr L ≤ L)
    (hm : matchTo a read = some mt) :
    mt.astop - mt.astart = mt.rstop - mt.rstart ∧
    hamming (docMatch a.adapterWildcards a.readWildcards) (seg a.seq mt.astart mt.astop)
      (seg read mt.rstart mt.rstop) ≤ mt.errors := by
  obtain ⟨⟨b1, b2, b3, b4⟩, _, _, ⟨s, hl, hr, hc⟩, htol, _⟩ := matchTo_sound a read h mt hm
  have he := errors_lt_indelCost a hi hlen hthr b2 htol
  obtain ⟨h1, h2⟩ := no_indel_script (docMatch a.adapterWildcards a.readWildcards) (indelCost a) s (by omega)
  rw [hl, hr] at h1 h2
  rw [seg_length' _ _ _ b2, seg_length' _ _ _ b4] at h1
  exact ⟨h1, by rw [h2]; exact hc⟩

theorem alignment_min (a : Adapter) (read : Bytes) (h : AdapterWF a)
    (hlen : a.indels = false → isAnchored a.ty = true → a.seq.length < indelCostOff)
    {as ae rs re : Nat} {sc : Int} {e : Nat} (hm : alignment a read = some (as, ae, rs, re, sc, e)) :
    RawMin a.adapterWildcards a.readWildcards (indelCost a) a.seq read as ae rs re e :=
  (alignment_sound a read h hm).2.2 hlen

/-- **C01, minimality half.** No alignment of the two reported intervals is cheaper than `errors`.
    (For the indel-free comparers of anchored adapters this needs an adapter shorter than the pseudo-infinite indel
    cost 100000: beyond twice that length a deletion plus an insertion can beat the Hamming distance.) -/
theorem errors_minimal (a : Adapter) (read : Bytes) (mt : SingleMatch) (h : AdapterWF a)
    (hlen : a.indels = false → isAnchored a.ty = true → a.seq.length < indelCostOff)
    (hm : matchTo a read = some mt) :
    ∀ s, lhs s = seg a.seq mt.astart mt.astop → rhs s = seg read mt.rstart mt.rstop →
      mt.errors ≤ cost (docMatch a.adapterWildcards a.readWildcards) (indelCost a) s :=
  alignment_min a read h hlen (matchTo_eq_some.mp hm).1

/-- `errors` is the weighted edit distance between the two reported intervals under the documented wildcard rules -/
theorem matchTo_errors_is_distance (a : Adapter) (read : Bytes) (mt : SingleMatch) (h : AdapterWF a)
    (hlen : a.indels = false → isAnchored a.ty = true → a.seq.length < indelCostOff)
    (hm : matchTo a read = some mt) :
    IsDist (docMatch a.adapterWildcards a.readWildcards) (indelCost a)
      (seg a.seq mt.astart mt.astop) (seg read mt.rstart mt.rstop) mt.errors := by
  have hmin := errors_minimal a read mt h hlen hm
  obtain ⟨s, hl, hr, hc⟩ := (matchTo_sound a read h mt hm).script
  exact ⟨⟨s, hl, hr, Nat.le_antisymm hc (hmin s hl hr)⟩, hmin⟩

/-! ### non-vacuity: concrete matches (A=65 C=67 G=71 T=84 N=78; lower case +32), tolerance `⌊L/5⌋` -/

def exAdapter (ty : AdapterType) (seq : Bytes) (mo : Nat) (rw aw indels : Bool) : Adapter :=
  { ty := ty, seq := seq, thr := fun L => L / 5, minOverlap := mo, readWildcards := rw, adapterWildcards := aw,
    indels := indels }

theorem exAdapter_wf (ty : AdapterType) (seq : Bytes) (mo : Nat) (rw aw indels : Bool)
    (hup : ∀ c ∈ seq, ¬ (97 ≤ c ∧ c ≤ 122)) (hanch : isAnchored ty = true → mo = seq.length) :
    AdapterWF (exAdapter ty seq mo rw aw indels) :=
  ⟨hup, fun _ _ hxy => Nat.div_le_div_right hxy, rfl, hanch⟩

/-- 3' adapter `ACGTACGTAC` in `TTACGTCGTACGG`: one deleted adapter base -/
example : matchTo (exAdapter .back [65,67,71,84,65,67,71,84,65,67] 3 false false true)
      [84,84,65,67,71,84,67,71,84,65,67,71,71] = some ⟨0, 10, 2, 11, 7, 1, false⟩ ∧
    AdapterWF (exAdapter .back [65,67,71,84,65,67,71,84,65,67] 3 false false true) :=
  ⟨by decide +kernel, exAdapter_wf _ _ _ _ _ _ (by decide) (by decide)⟩

/-- 5' adapter `ACNGTACGTA` with `-N` semantics in `ggACTGTACCTAttt`: the `N` absorbs `T`, one mismatch, and
    the tolerance is computed from the 9 non-N bases -/
example : matchTo (exAdapter .front [65,67,78,71,84,65,67,71,84,65] 3 false true true)
      [103,103,65,67,84,71,84,65,67,67,84,65,116,116,116] = some ⟨0, 10, 2, 12, 8, 1, true⟩ ∧
    AdapterWF (exAdapter .front [65,67,78,71,84,65,67,71,84,65] 3 false true true) :=
  ⟨by decide +kernel, exAdapter_wf _ _ _ _ _ _ (by decide) (by decide)⟩

/-- anywhere adapter `ACGTACGTAC`, partial occurrence at the 5' end of the lower-case read `gtacgtacTTTT` -/
example : matchTo (exAdapter .anywhere [65,67,71,84,65,67,71,84,65,67] 3 false false true)
      [103,116,97,99,103,116,97,99,84,84,84,84] = some ⟨2, 10, 0, 8, 8, 0, true⟩ ∧
    AdapterWF (exAdapter .anywhere [65,67,71,84,65,67,71,84,65,67] 3 false false true) :=
  ⟨by decide +kernel, exAdapter_wf _ _ _ _ _ _ (by decide) (by decide)⟩

/-- anchored 5' adapter without indels (`PrefixComparer`) in `ACGTACCTACGGG`: one mismatch -/
example : matchTo (exAdapter .prefix [65,67,71,84,65,67,71,84,65,67] 10 false false false)
      [65,67,71,84,65,67,67,84,65,67,71,71,71] = some ⟨0, 10, 0, 10, 8, 1, true⟩ ∧
    AdapterWF (exAdapter .prefix [65,67,71,84,65,67,71,84,65,67] 10 false false false) :=
  ⟨by decide +kernel, exAdapter_wf _ _ _ _ _ _ (by decide) (by decide)⟩

/-- anchored 3' adapter without indels (`SuffixComparer`), read wildcards on, in `GGGACGTNCGTAC` -/
example : matchTo (exAdapter .suffix [65,67,71,84,65,67,71,84,65,67] 10 true false false)
      [71,71,71,65,67,71,84,78,67,71,84,65,67] = some ⟨0, 10, 3, 13, 10, 0, false⟩ ∧
    AdapterWF (exAdapter .suffix [65,67,71,84,65,67,71,84,65,67] 10 true false false) :=
  ⟨by decide +kernel, exAdapter_wf _ _ _ _ _ _ (by decide) (by decide)⟩

/-- rightmost 5' adapter `ACGTA` picks the second copy in `ACGTATTACGTAGG` -/
example : matchTo (exAdapter .rightmostFront [65,67,71,84,65] 3 false false true)
      [65,67,71,84,65,84,84,65,67,71,84,65,71,71] = some ⟨0, 5, 7, 12, 5, 0, true⟩ ∧
    AdapterWF (exAdapter .rightmostFront [65,67,71,84,65] 3 false false true) :=
  ⟨by decide +kernel, exAdapter_wf _ _ _ _ _ _ (by decide) (by decide)⟩

/-- non-internal 3' adapter: a prefix of `ACGTACGTAC` at the end of `TTTTACGTA` -/
example : matchTo (exAdapter .nonInternalBack [65,67,71,84,65,67,71,84,65,67] 3 false false true)
      [84,84,84,84,65,67,71,84,65] = some ⟨0, 5, 4, 9, 5, 0, false⟩ ∧
    AdapterWF (exAdapter .nonInternalBack [65,67,71,84,65,67,71,84,65,67] 3 false false true) :=
  ⟨by decide +kernel, exAdapter_wf _ _ _ _ _ _ (by decide) (by decide)⟩

/-- `noindel_is_hamming` needs `thr L ≤ L`: with an (absurd) tolerance of 200000 errors the indel-free aligner aligns
    `AC` to `C` through a "forbidden" deletion of cost 100000 -/
theorem noindel_needs_rate_le_one :
    ∃ (a : Adapter) (read : Bytes) (mt : SingleMatch), AdapterWF a ∧ a.indels = false ∧
      a.seq.length < indelCostOff ∧ matchTo a read = some mt ∧ mt.astop - mt.astart ≠ mt.rstop - mt.rstart :=
  ⟨{ ty := .back, seq := [65,67], thr := fun _ => 200000, minOverlap := 1, readWildcards := false,
     adapterWildcards := false, indels := false }, [67], ⟨0, 2, 0, 1, -1, 100000, false⟩,
   ⟨by decide, fun _ _ _ => Nat.le_refl _, rfl, by decide⟩, rfl, by decide, by decide +kernel, by decide⟩

/-! ## Tolerance over the full adapter for absolute error counts (regenerated from the working tree on every run) -/

/-- `-e k` on an adapter of `n` informative bases is stored as the double `k/n`; over the whole adapter the tolerance is `floor(fl(k/n) · n)`
    (`thrOfRate`), which is `k - 1` for a few pairs such as (1, 49) -/
def fullTolerance (k n : Nat) : Nat := Cutadapt.Adapters.thrOfRate (Float.ofNat k / Float.ofNat n) n

/-- **The real program accepts exactly `floor(fl(k/n) · n)` substitutions in a full-length occurrence of an anchored adapter given with `-e k`** — no match is
    reported beyond the maximum error rate times the aligned bases, also where the double product falls just below `k` (observed: probe reads with 0 … k+1
    substitutions through the command-line program; the model's `thr` is the same function) -/
theorem generated_full_tolerance :
    ∀ row ∈ Cutadapt.Generated.toleranceRows, row.2.2.1 = fullTolerance row.1 row.2.1 := by
  decide +kernel

end Cutadapt.C01
